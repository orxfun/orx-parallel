/- Refinement of the cell-level heap sort (`Res.HS`) to the abstract k-way merge (`K.popMin`). -/
import OrxPar.Model.Resources
import OrxPar.Lemmas.Merge
namespace OrxPar
namespace Res
open K

/-- what `HS.selMin` does with its candidates (index, key of the current element): the fold keeps
    the first minimal one -/
def pickMin : List (Nat × Key) → Option Nat
  | [] => none
  | c :: cs => some (cs.foldl (fun best x => if Key.lt x.2 best.2 then x else best) c).1

theorem pickMin_first (P Q : List (Nat × Key)) (m : Nat × Key)
    (hP : ∀ p ∈ P, Key.lt m.2 p.2 = true) (hQ : ∀ q ∈ Q, ¬ Key.lt q.2 m.2 = true) :
    pickMin (P ++ m :: Q) = some m.1 := by
  -- once the fold holds `m` it keeps it
  have keep : Q.foldl (fun best x => if Key.lt x.2 best.2 then x else best) m = m :=
    List.foldlRecOn Q _ (motive := (· = m)) rfl fun _ hb q hq => hb.symm ▸ if_neg (hQ q hq)
  cases P with
  | nil => exact congrArg (fun b => some b.1) keep
  | cons c P =>
    -- whatever the fold holds after `c :: P` is above `m`, so it takes `m`
    show some (List.foldl _ c (P ++ m :: Q)).1 = _
    rw [List.foldl_append, List.foldl_cons, if_pos, keep]
    refine List.foldlRecOn P _ (motive := fun b : Nat × Key => Key.lt m.2 b.2 = true) (hP c List.mem_cons_self)
      fun b hb x hx => ?_
    show Key.lt m.2 (if Key.lt x.2 b.2 then x else b).2 = true
    split
    · exact hP x (List.mem_cons_of_mem _ hx)
    · exact hb

def HS.cur (h : HS) (v : Nat) : Option (Key × Cell) := (h.vecs.getD v [])[h.indices.getD v 0]?

def cv (r : List (Key × Val)) : CVec := r.map fun p => (p.1, Cell.init p.2)

/-- the cell-level state that stands for the merge state `ps.map (·.2)`: vector `v` is the cells
    moved out so far (their keys are `ps[v].1`) followed by the cells of what remains of it, and
    its index stands between the two -/
def rep (ps : List (List Key × List (Key × Val))) (out : List Nat) : HS :=
  ⟨ps.map fun q => q.1.map (·, Cell.moved) ++ cv q.2, ps.map (·.1.length), out, 0⟩

theorem rep_getD {ps out} {v : Nat} {q : List Key × List (Key × Val)} (hv : ps[v]? = some q) :
    (rep ps out).vecs.getD v [] = q.1.map (·, Cell.moved) ++ cv q.2 ∧
      (rep ps out).indices.getD v 0 = q.1.length := by
  rw [List.getD_eq_getElem?_getD, List.getD_eq_getElem?_getD, rep, List.getElem?_map, List.getElem?_map, hv]
  exact ⟨rfl, rfl⟩

theorem rep_cur {ps out} {v : Nat} {q : List Key × List (Key × Val)} (hv : ps[v]? = some q) :
    (rep ps out).cur v = q.2.head?.map fun p => (p.1, Cell.init p.2) := by
  unfold HS.cur
  rw [(rep_getD hv).1, (rep_getD hv).2, List.getElem?_append_right (Nat.le_of_eq (List.length_map _)),
    List.length_map, Nat.sub_self, ← List.head?_eq_getElem?, cv, List.head?_map]

def heads (rem : List (List (Key × Val))) (k : Nat) : List (Nat × Key) :=
  (rem.zipIdx k).filterMap fun p => p.1.head?.map fun y => (p.2, y.1)

theorem mem_heads {rem : List (List (Key × Val))} {k : Nat} {p : Nat × Key} (hp : p ∈ heads rem k) :
    ∃ y t, (y :: t) ∈ rem ∧ p.2 = y.1 := by
  obtain ⟨q, hq, hp⟩ := List.mem_filterMap.1 hp
  obtain ⟨y, hy, rfl⟩ := Option.map_eq_some_iff.1 hp
  obtain ⟨t, ht⟩ := List.head?_eq_some_iff.1 hy
  exact ⟨y, t, ht ▸ List.fst_mem_of_mem_zipIdx hq, rfl⟩

theorem filterMap_range_eq {α β : Type} (l : List α) (F : Nat → Option β) (G : α × Nat → Option β)
    (h : ∀ i x, l[i]? = some x → F i = G (x, i)) :
    (List.range l.length).filterMap F = l.zipIdx.filterMap G :=
  calc (List.range l.length).filterMap F
      = ((List.range l.length).map F).filterMap id := (List.filterMap_map (g := id)).symm
    _ = (l.zipIdx.map G).filterMap id := by
        rw [List.range_eq_range', ← List.zipIdx_map_snd 0 l, List.map_map]
        exact congrArg _ (List.map_congr_left fun p hp => h p.2 p.1 (List.mem_zipIdx_iff_getElem?.1 hp))
    _ = l.zipIdx.filterMap G := List.filterMap_map (g := id)

theorem rep_selMin (ps out) : (rep ps out).selMin = pickMin (heads (ps.map (·.2)) 0) := by
  show pickMin ((List.range (ps.map _).length).filterMap fun v =>
    match (rep ps out).cur v with | some x => some (v, x.1) | none => none) = _
  rw [List.length_map, ← List.length_map (·.2)]
  refine congrArg pickMin (filterMap_range_eq _ _ _ fun i r hr => ?_)
  rw [List.getElem?_map] at hr
  obtain ⟨q, hq, rfl⟩ := Option.map_eq_some_iff.1 hr
  rw [rep_cur hq]
  cases q.2.head? <;> rfl

/-- `selMin` and `popMin` both take the first minimal head -/
theorem step_sel {rem x rem'} (hp : popMin rem = some (x, rem')) :
    ∃ v tl, rem[v]? = some (x :: tl) ∧ rem' = rem.set v tl ∧ pickMin (heads rem 0) = some v := by
  obtain ⟨A, tl, B, rfl, rfl, hA, hB⟩ := popMin_split hp
  refine ⟨A.length, tl, ?_, ?_, ?_⟩
  · rw [List.getElem?_append_right (Nat.le_refl _), Nat.sub_self]; rfl
  · rw [List.set_append_right _ _ (Nat.le_refl _), Nat.sub_self]; rfl
  rw [heads, List.zipIdx_append, List.zipIdx_cons, List.filterMap_append,
    List.filterMap_cons_some (b := (A.length, x.1)) (by rw [Nat.zero_add]; rfl)]
  refine pickMin_first _ _ (A.length, x.1) (fun p hp => ?_) (fun q hq => ?_)
  · obtain ⟨y, t, hy, e⟩ := mem_heads hp
    exact e ▸ hA y t hy
  · obtain ⟨y, t, hy, e⟩ := mem_heads hq
    exact e ▸ fun hlt => (Key.lt_iff_not_le _ _).1 hlt (hB y t hy)

theorem step_spec {ps out x rem'} (hp : popMin (ps.map (·.2)) = some (x, rem')) :
    ∃ ps', (rep ps out).step = some (rep ps' (out ++ [x.2])) ∧ ps'.map (·.2) = rem' := by
  obtain ⟨v, tl, hv, rfl, hsel⟩ := step_sel hp
  rw [List.getElem?_map] at hv
  obtain ⟨⟨ks, r⟩, hq, hr⟩ := Option.map_eq_some_iff.1 hv
  cases hr
  refine ⟨ps.set v (ks ++ [x.1], tl), ?_, List.map_set⟩
  unfold HS.step
  rw [rep_selMin, hsel]
  simp only [show ((rep ps out).vecs.getD v [])[(rep ps out).indices.getD v 0]? = some (x.1, Cell.init x.2)
    from rep_cur hq, readCell]
  rw [(rep_getD hq).1, (rep_getD hq).2, List.set_append_right _ _ (Nat.le_of_eq (List.length_map _)),
    List.length_map, Nat.sub_self, rep, rep, List.map_set, List.map_set, List.map_append, List.append_assoc,
    List.length_append]
  rfl

theorem step_none {ps out} (hp : popMin (ps.map (·.2)) = none) : (rep ps out).step = none := by
  have hnil := List.flatten_eq_nil_iff.1 (popMin_none hp)
  unfold HS.step
  rw [rep_selMin, heads, List.filterMap_eq_nil_iff.2 fun p hp => by
    rw [hnil _ (List.fst_mem_of_mem_zipIdx hp)]; rfl]
  rfl

theorem loop_spec (n : Nat) (ps : List (List Key × List (Key × Val))) (out : List Nat) :
    ∃ ps', HS.loop n (rep ps out) = rep ps' (out ++ (kmergeFuel n (ps.map (·.2))).map (·.2)) ∧
      ((ps.map (·.2)).flatten.length ≤ n → (ps'.map (·.2)).flatten = []) := by
  induction n generalizing ps out with
  | zero =>
    exact ⟨ps, by simp [HS.loop, kmergeFuel], fun hl => List.length_eq_zero_iff.1 (Nat.le_zero.1 hl)⟩
  | succ n ih =>
    cases hp : popMin (ps.map (·.2)) with
    | none =>
      exact ⟨ps, by simp [HS.loop, kmergeFuel, step_none hp, hp], fun _ => popMin_none hp⟩
    | some xr =>
      obtain ⟨x, rem1⟩ := xr
      obtain ⟨ps1, hs1, rfl⟩ := step_spec (out := out) hp
      obtain ⟨ps', hl', hnil⟩ := ih ps1 (out ++ [x.2])
      -- both loops take this step (`hs1`, `hp`); `out ++ [x.2] ++ …` is reassociated
      refine ⟨ps', by simp [HS.loop, kmergeFuel, hs1, hp, hl'], fun hl => hnil ?_⟩
      exact Nat.le_of_succ_le_succ (Nat.le_trans (Nat.le_of_eq (popMin_perm hp).length_eq) hl)

theorem HS.step_lengths {h h' : HS} (hs : h.step = some h') :
    h'.vecs.map List.length = h.vecs.map List.length := by
  revert hs
  fun_cases HS.step h
  -- the one case that yields a state: `v` is the selected vector, `idx` and `vec` its index and
  -- its cells; the other binders (the key and the cell read, what `readCell` returns, and the
  -- equations) are not needed
  case case3 v _ idx vec _ _ _ _ _ _ _ =>
    intro hs
    cases hs
    show (h.vecs.set v (vec.set idx _)).map List.length = _
    rw [List.map_set, List.length_set]
    by_cases hv : v < h.vecs.length
    · rw [show vec = h.vecs[v] from (List.getElem_eq_getD _).symm,
        ← List.getElem_map List.length (h := (List.length_map _).symm ▸ hv), List.set_getElem_self]
    · exact List.set_eq_of_length_le ((List.length_map _).symm ▸ Nat.le_of_not_lt hv)
  all_goals exact nofun

theorem HS.loop_lengths (n : Nat) (h : HS) :
    (HS.loop n h).vecs.map List.length = h.vecs.map List.length := by
  induction n generalizing h with
  | zero => rfl
  | succ n ih =>
    unfold HS.loop
    split
    · rfl
    · rw [ih, HS.step_lengths ‹_›]

theorem rep_init (tv : List (List (Key × Val))) :
    rep (tv.map fun r => ([], r)) [] = ⟨tv.map cv, (tv.map cv).map fun _ => 0, [], 0⟩ := by
  simp only [rep, List.map_map]; rfl

theorem loop_final (tv : List (List (Key × Val))) :
    let h := HS.loop ((tv.map cv).map List.length).sum ⟨tv.map cv, (tv.map cv).map fun _ => 0, [], 0⟩
    h.out = (kmergeFuel (tv.map List.length).sum tv).map (·.2) ∧ h.bad = 0 ∧
    (∀ c ∈ h.vecs.flatten.map (·.2), c = Cell.moved) ∧
    (h.vecs.flatten.map (·.2)).length = tv.flatten.length := by
  intro h
  have hlen : (tv.map cv).map List.length = tv.map List.length := by
    rw [List.map_map]; exact List.map_congr_left fun r _ => List.length_map _
  have htv : (tv.map fun r => (([] : List Key), r)).map (·.2) = tv := by
    rw [List.map_map]; exact List.map_id'' (fun _ => rfl) tv
  obtain ⟨ps', hl', hnil⟩ := loop_spec ((tv.map cv).map List.length).sum (tv.map fun r => ([], r)) []
  rw [rep_init, htv] at hl'
  replace hl' : h = _ := hl'
  have hnil' := List.flatten_eq_nil_iff.1 (hnil (by rw [htv, hlen]; exact Nat.le_of_eq List.length_flatten))
  refine ⟨by rw [hl', hlen]; rfl, congrArg HS.bad hl', fun c hc => ?_, ?_⟩
  · -- nothing remains, so every vector consists of its moved-out prefix
    rw [hl'] at hc
    obtain ⟨a, ha, rfl⟩ := List.mem_map.1 hc
    obtain ⟨vec, hvec, ha⟩ := List.mem_flatten.1 ha
    obtain ⟨q, hq, rfl⟩ := List.mem_map.1 hvec
    rw [hnil' _ (List.mem_map_of_mem hq), cv, List.map_nil, List.append_nil] at ha
    obtain ⟨k, _, rfl⟩ := List.mem_map.1 ha
    rfl
  · rw [List.length_map, List.length_flatten, HS.loop_lengths, hlen, List.length_flatten]

end Res
end OrxPar
