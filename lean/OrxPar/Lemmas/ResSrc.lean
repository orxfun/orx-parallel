/- The owning source of `Model/Resources.lean`: an invariant that every pull and `skip_to_end` keep,
   and from which the drop accounts for every token. -/
import OrxPar.Model.Resources
namespace OrxPar
namespace Res

def blk (toks : List Nat) (m : Nat) : List Cell :=
  List.replicate m Cell.moved ++ (toks.drop m).map Cell.init

theorem blk_length {toks : List Nat} {m : Nat} (h : m ≤ toks.length) : (blk toks m).length = toks.length := by
  rw [blk, List.length_append, List.length_replicate, List.length_map, List.length_drop, Nat.add_sub_cancel' h]

theorem blk_getD {toks : List Nat} {m : Nat} (h : m < toks.length) :
    (blk toks m).getD m Cell.uninit = Cell.init toks[m] := by
  rw [blk, List.drop_eq_getElem_cons h, List.getD_eq_getElem?_getD,
    List.getElem?_append_right (Nat.le_of_eq List.length_replicate)]
  simp only [List.length_replicate, Nat.sub_self, List.map_cons, List.getElem?_cons_zero,
    Option.getD_some]

theorem blk_set {toks : List Nat} {m : Nat} (h : m < toks.length) :
    (blk toks m).set m Cell.moved = blk toks (m + 1) := by
  rw [blk, List.drop_eq_getElem_cons h, List.set_append_right _ _ (Nat.le_of_eq List.length_replicate), blk, List.replicate_succ']
  simp only [List.length_replicate, Nat.sub_self, List.map_cons, List.set_cons_zero,
    List.append_assoc, List.singleton_append]

theorem held_eq_nil {cs : List Cell} (h : ∀ c ∈ cs, c = Cell.moved) : held cs = [] :=
  List.filterMap_eq_nil_iff.2 fun c hc => by rw [h c hc]

theorem held_blk (toks : List Nat) : held (blk toks toks.length) = [] := by
  rw [blk, List.drop_length, List.map_nil, List.append_nil]
  exact held_eq_nil fun _ => List.eq_of_mem_replicate

theorem foldl_range_eq {β : Type} (F : β → Nat → β) (G : Nat → β) (n : Nat) {init : β} (h0 : init = G 0)
    (h : ∀ i, i < n → F (G i) i = G (i + 1)) : (List.range n).foldl F init = G n := by
  subst h0
  induction n with
  | zero => rfl
  | succ n ih =>
    rw [List.range_succ, List.foldl_append, ih fun i hi => h i (Nat.lt_succ_of_lt hi)]
    exact h n (Nat.lt_succ_self n)

theorem take_drop_succ {toks : List Nat} {m i : Nat} (h : m + i < toks.length) :
    (toks.drop m).take (i + 1) = (toks.drop m).take i ++ [toks[m + i]] := by
  rw [List.take_add_one, List.getElem?_drop, List.getElem?_eq_getElem h]; rfl

theorem VecSrc.take_blk {s : VecSrc} {toks : List Nat} {m : Nat} (hc : s.cells = blk toks m)
    (n : Nat) (hn : m + n ≤ toks.length) :
    s.take m n = ({ s with cells := blk toks (m + n) }, (toks.drop m).take n) := by
  refine foldl_range_eq _ (fun i => ({ s with cells := blk toks (m + i) }, (toks.drop m).take i)) n
    (by rw [Nat.add_zero, ← hc]) fun i hi => ?_
  have h : m + i < toks.length := Nat.lt_of_lt_of_le (Nat.add_lt_add_left hi m) hn
  simp only [blk_getD h, readCell, blk_set h, take_drop_succ h]
  rfl

theorem VecSrc.dropRange_tail {s : VecSrc} {toks : List Nat} {m : Nat} (hc : s.cells = blk toks m)
    (hm : m ≤ toks.length) :
    s.dropRange m toks.length =
      { s with cells := blk toks toks.length, dropped := s.dropped ++ toks.drop m } := by
  refine (foldl_range_eq _
    (fun i => { s with cells := blk toks (m + i), dropped := s.dropped ++ (toks.drop m).take i })
    (toks.length - m) (by rw [Nat.add_zero, ← hc, List.take_zero, List.append_nil]) fun i hi => ?_).trans ?_
  · have h : m + i < toks.length := Nat.add_comm i m ▸ Nat.add_lt_of_lt_sub hi
    simp only [blk_getD h, dropCell, blk_set h, take_drop_succ h, List.append_assoc]
    rfl
  · rw [Nat.add_sub_cancel' hm, List.take_of_length_le (Nat.le_of_eq List.length_drop)]

/-- `taken`: what the pulls so far have yielded.  The counter is capped at the length: a pull
    reserves its `c` positions whether or not they exist. -/
structure Inv (toks : List Nat) (s : VecSrc) (taken : List Nat) : Prop where
  cells : s.cells = List.replicate (min s.counter toks.length) Cell.moved ++
    (toks.drop (min s.counter toks.length)).map Cell.init
  perm : (taken ++ s.dropped).Perm (toks.take (min s.counter toks.length))
  bad : s.bad = 0

theorem Inv.length {toks s taken} (h : Inv toks s taken) : s.cells.length = toks.length :=
  h.cells ▸ blk_length (Nat.min_le_right _ _)

theorem Inv.of_blk {toks s taken} (m : Nat) (hm : min s.counter toks.length = m)
    (hc : s.cells = blk toks m) (hp : (taken ++ s.dropped).Perm (toks.take m)) (hb : s.bad = 0) :
    Inv toks s taken := by
  subst hm; exact ⟨hc, hp, hb⟩

theorem Inv.init (toks : List Nat) : Inv toks (VecSrc.new toks) [] :=
  Inv.of_blk 0 (Nat.zero_min _) rfl .nil rfl

/-- `hr` is the body of `VecSrc.apply _ (.pull c)` (`Lemmas/Resources.lean`) -/
theorem Inv.pull {toks s taken} (h : Inv toks s taken) (c : Nat) {s' : VecSrc} {ts : List Nat}
    (hr : VecSrc.take { s with counter := s.counter + c } s.counter
      (min c (s.cells.length - s.counter)) = (s', ts)) : Inv toks s' (taken ++ ts) := by
  rw [h.length] at hr
  obtain ⟨hc, hp, hb⟩ := h
  by_cases hs : toks.length ≤ s.counter
  · rw [Nat.sub_eq_zero_of_le hs, Nat.min_zero] at hr
    cases hr
    rw [List.append_nil]
    refine Inv.of_blk _ ?_ hc hp hb
    show min (s.counter + c) _ = _
    rw [Nat.min_eq_right hs, Nat.min_eq_right (Nat.le_trans hs (Nat.le_add_right _ _))]
  · have hs := Nat.le_of_lt (Nat.lt_of_not_le hs)
    rw [Nat.min_eq_left hs] at hc hp
    have hm : s.counter + min c (toks.length - s.counter) = min (s.counter + c) toks.length := by
      rw [← Nat.add_min_add_left, Nat.add_sub_cancel' hs]
    rw [VecSrc.take_blk (s := { s with counter := s.counter + c }) hc _
      (hm ▸ Nat.min_le_right _ _)] at hr
    cases hr
    refine Inv.of_blk _ hm.symm rfl ?_ hb
    · show ((taken ++ _) ++ s.dropped).Perm _
      rw [List.take_add, List.append_assoc]
      exact (List.perm_append_comm.append_left taken).trans
        (by rw [← List.append_assoc]; exact hp.append_right _)

theorem perm_drop_tail {toks taken dropped : List Nat} {m : Nat}
    (hp : (taken ++ dropped).Perm (toks.take m)) : (taken ++ (dropped ++ toks.drop m)).Perm toks := by
  rw [← List.append_assoc]
  exact (hp.append_right _).trans (by rw [List.take_append_drop])

/-- `skip_to_end` drops what `Drop` would: from `counter` on if that is inside, nothing otherwise -/
theorem VecSrc.skipToEnd_eq (s : VecSrc) :
    s.skipToEnd = VecSrc.dropRange { s with counter := max s.counter s.cells.length }
      (min s.counter s.cells.length) s.cells.length := by
  by_cases h : s.counter < s.cells.length
  · rw [Nat.min_eq_left (Nat.le_of_lt h)]; exact if_pos h
  · rw [Nat.min_eq_right (Nat.le_of_not_lt h), VecSrc.dropRange, Nat.sub_self]; exact if_neg h

theorem Inv.skip {toks s taken} (h : Inv toks s taken) : Inv toks s.skipToEnd taken := by
  have hlen := h.length
  obtain ⟨hc, hp, hb⟩ := h
  rw [VecSrc.skipToEnd_eq, hlen, VecSrc.dropRange_tail (s := { s with counter := max s.counter toks.length }) hc
    (Nat.min_le_right _ _)]
  refine Inv.of_blk toks.length (Nat.min_eq_right (Nat.le_max_right _ _)) rfl ?_ hb
  rw [List.take_of_length_le (Nat.le_refl _)]
  exact perm_drop_tail hp

theorem Inv.drop {toks s taken} (h : Inv toks s taken) :
    (taken ++ s.drop.dropped).Perm toks ∧ s.drop.bad = 0 ∧ held s.drop.cells = [] := by
  have hlen := h.length
  obtain ⟨hc, hp, hb⟩ := h
  unfold VecSrc.drop
  rw [hlen, show Nat.min s.counter toks.length = min s.counter toks.length from rfl,
    VecSrc.dropRange_tail hc (Nat.min_le_right _ _)]
  exact ⟨perm_drop_tail hp, hb, held_blk toks⟩

end Res
end OrxPar
