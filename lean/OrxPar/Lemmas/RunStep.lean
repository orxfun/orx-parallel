/- The worker transition system (`Model/Run.lean`), step by step: a step is idle, local to one
   worker (`Local`: publish, hit, no hit, finish) or a pull, and what is proved of steps is proved
   by this case analysis (`step_live`, `step_cases`). -/
import OrxPar.Model.Run
import OrxPar.Lemmas.Regroup
namespace OrxPar
namespace Run

theorem slice_length (src : Nat → Val) (a n : Nat) : (slice src a n).length = n := by
  simp [slice]

theorem slice_append (src : Nat → Val) (a n m : Nat) :
    slice src a (n + m) = slice src a n ++ slice src (a + n) m := by
  simp [slice, ← List.range'_append_1]

theorem slice_ne_nil (src : Nat → Val) (a n : Nat) (h : 0 < n) : slice src a n ≠ [] :=
  List.ne_nil_of_length_pos (by rw [slice_length]; exact h)

theorem slice_take (src : Nat → Val) (k N : Nat) (h : k ≤ N) :
    (slice src 0 N).take k = slice src 0 k := by
  obtain ⟨m, rfl⟩ := Nat.exists_eq_add_of_le h
  rw [slice_append]
  exact List.take_left' (slice_length _ _ _)

theorem slice_ofList (xs : List Val) : slice (ofList xs) 0 xs.length = xs := by
  apply List.ext_getElem
  · simp [slice_length]
  · intro i h1 h2
    simp [slice, ofList, h2]

theorem avail_le (len : Option Nat) (pos c : Nat) : avail len pos c ≤ c := by
  cases len with
  | none => exact Nat.le_refl _
  | some l => exact Nat.min_le_left _ _

theorem avail_eq_zero {len : Option Nat} {pos c : Nat} :
    avail len pos c = 0 ↔ c = 0 ∨ ∃ l, len = some l ∧ l ≤ pos := by
  cases len with
  | none => simp [avail]
  | some l =>
    show min c (l - pos) = 0 ↔ _
    rw [Nat.min_eq_zero_iff, Nat.sub_eq_zero_iff_le]
    simp

def cov (len : Option Nat) (pos : Nat) : Nat :=
  match len with
  | none => pos
  | some l => Nat.min pos l

theorem covered_eq_cov (s : State) : covered s = cov s.len s.pos := rfl

theorem covered_le (s : State) : covered s ≤ s.pos := by
  rw [covered_eq_cov]
  cases s.len with
  | none => exact Nat.le_refl _
  | some l => exact Nat.min_le_left _ _

theorem avail_covered (len : Option Nat) (pos c : Nat) (hn : avail len pos c ≠ 0) :
    cov len pos = pos ∧ cov len (pos + c) = pos + avail len pos c := by
  cases len with
  | none => exact ⟨rfl, rfl⟩
  | some l =>
    have hlt : pos ≤ l :=
      Nat.le_of_not_le fun hle => hn (avail_eq_zero.2 (Or.inr ⟨l, rfl, hle⟩))
    refine ⟨Nat.min_eq_left hlt, ?_⟩
    show min (pos + c) l = pos + min c (l - pos)
    rw [← Nat.add_min_add_left, Nat.add_sub_cancel' hlt]

theorem Tiles_flatten {l : List Chunk} {a : Nat} {xs : List Val} (h : Tiles l a xs) :
    (l.map (·.items)).flatten = xs :=
  h.elems

/-- the shape of `Worker.bufIdx` and of one chunk's part of `K.idxElems` -/
def idx (l : List Val) (a : Nat) : List (Nat × Val) := (l.zipIdx a).map fun p => (p.2, p.1)

theorem idx_cons (x : Val) (l : List Val) (a : Nat) : idx (x :: l) a = (a, x) :: idx l (a + 1) := by
  simp [idx, List.zipIdx_cons]

theorem idx_nil (a : Nat) : idx [] a = [] := rfl

theorem idx_length (l : List Val) (a : Nat) : (idx l a).length = l.length := by
  rw [idx, List.length_map, List.length_zipIdx]

theorem mem_idx_iff {l : List Val} {a i : Nat} {v : Val} :
    (i, v) ∈ idx l a ↔ a ≤ i ∧ l[i - a]? = some v := by
  simp only [idx, List.mem_map, Prod.mk.injEq, Prod.exists]
  constructor
  · rintro ⟨x, j, hm, rfl, rfl⟩; exact List.mk_mem_zipIdx_iff_le_and_getElem?_sub.1 hm
  · intro h; exact ⟨v, i, List.mk_mem_zipIdx_iff_le_and_getElem?_sub.2 h, rfl, rfl⟩

theorem mem_idx_slice {src : Nat → Val} {n i : Nat} {v : Val} :
    (i, v) ∈ idx (slice src 0 n) 0 ↔ i < n ∧ v = src i := by
  rw [mem_idx_iff, slice, List.getElem?_map]
  by_cases h : i < n
  · simp [h, eq_comm]
  · simp [h]

theorem run_cons (s : State) (t : Nat) (ts : List Nat) : run s (t :: ts) = run (step s t) ts := rfl

theorem run_append (s : State) (a b : List Nat) : run s (a ++ b) = run (run s a) b := by
  simp [run, List.foldl_append]

theorem run_induction {P : State → Prop} (hstep : ∀ s t, P s → P (step s t)) {s : State} (h : P s)
    (sched : List Nat) : P (run s sched) :=
  List.foldlRecOn sched step h fun s hs t _ => hstep s t hs

theorem get_lt {ws : List Worker} {t : Nat} {w : Worker} (h : ws[t]? = some w) : t < ws.length :=
  (List.getElem?_eq_some_iff.1 h).1

theorem get_set_self {ws : List Worker} {t : Nat} {w w' : Worker} (h : ws[t]? = some w) :
    (ws.set t w')[t]? = some w' :=
  List.getElem?_set_self (get_lt h)

theorem get_set {ws : List Worker} {t t' : Nat} {w w' v : Worker} (hw : ws[t]? = some w)
    (hv : (ws.set t w')[t']? = some v) : t' = t ∧ v = w' ∨ t' ≠ t ∧ ws[t']? = some v := by
  by_cases h : t' = t
  · subst h
    rw [get_set_self hw] at hv
    exact Or.inl ⟨rfl, (Option.some.inj hv).symm⟩
  · rw [List.getElem?_set_ne (Ne.symm h)] at hv
    exact Or.inr ⟨h, hv⟩

theorem step_idle {s : State} {t : Nat} (h : ∀ w, s.ws[t]? = some w → w.status = .done) :
    step s t = s := by
  unfold step
  cases hw : s.ws[t]? with
  | none => rfl
  | some w => simp [h w hw]

theorem step_publish {s : State} {t : Nat} {w : Worker} (h : s.ws[t]? = some w)
    (hst : w.status = .publishing) :
    step s t = { s with stopped := true, ws := s.ws.set t { w with status := .done } } := by
  simp only [step, h, hst]

def hitW (w : Worker) (x : Val) (rest : List Val) : Worker :=
  { w with buf := [], seen := w.seen ++ [(w.bufPos, x)], found := some (w.bufPos, x),
           status := .publishing,
           dropped := idx rest (w.bufPos + 1) }

theorem step_hit {s : State} {t : Nat} {w : Worker} {x : Val} {rest : List Val}
    (h : s.ws[t]? = some w) (hst : w.status = .running) (hb : w.buf = x :: rest)
    (hx : s.hit x = true) :
    step s t = { s with ws := s.ws.set t (hitW w x rest) } := by
  simp only [step, h, hst, hb, hx, hitW, idx, if_true]

def nohitW (w : Worker) (x : Val) (rest : List Val) : Worker :=
  { w with buf := rest, bufPos := w.bufPos + 1, seen := w.seen ++ [(w.bufPos, x)] }

theorem step_nohit {s : State} {t : Nat} {w : Worker} {x : Val} {rest : List Val}
    (h : s.ws[t]? = some w) (hst : w.status = .running) (hb : w.buf = x :: rest)
    (hx : s.hit x = false) :
    step s t = { s with ws := s.ws.set t (nohitW w x rest) } := by
  simp only [step, h, hst, hb, hx, nohitW, Bool.false_eq_true, if_false]

theorem step_finish {s : State} {t : Nat} {w : Worker}
    (h : s.ws[t]? = some w) (hst : w.status = .running) (hb : w.buf = [])
    (hx : s.stopped = true ∨ avail s.len s.pos w.c = 0) :
    step s t = { s with ws := s.ws.set t { w with status := .done } } := by
  simp only [step, h, hst, hb, Bool.or_eq_true_iff.2 (hx.imp_right beq_iff_eq.2), if_true]

def pullS (s : State) (t : Nat) (w : Worker) : State :=
  { s with pos := s.pos + w.c,
           ws := s.ws.set t
             { w with buf := slice s.src s.pos (avail s.len s.pos w.c), bufPos := s.pos },
           log := s.log ++ [⟨t, s.pos, slice s.src s.pos (avail s.len s.pos w.c)⟩] }

theorem step_pull {s : State} {t : Nat} {w : Worker}
    (h : s.ws[t]? = some w) (hst : w.status = .running) (hb : w.buf = [])
    (hs : s.stopped = false) (hn : avail s.len s.pos w.c ≠ 0) :
    step s t = pullS s t w := by
  simp only [step, h, hst, hb, hs, Bool.false_or, beq_iff_eq, hn, if_false, pullS]

/-- the steps that leave the iterator's position and the log alone; the indices are the worker and
    the `stopped` flag afterwards -/
inductive Local (s : State) (w : Worker) : Worker → Bool → Prop
  | publish : w.status = .publishing → Local s w { w with status := .done } true
  | hit {x rest} : w.status = .running → w.buf = x :: rest → s.hit x = true →
      Local s w (hitW w x rest) s.stopped
  | nohit {x rest} : w.status = .running → w.buf = x :: rest → s.hit x = false →
      Local s w (nohitW w x rest) s.stopped
  | finish : w.status = .running → w.buf = [] →
      (s.stopped = true ∨ avail s.len s.pos w.c = 0) → Local s w { w with status := .done } s.stopped

theorem step_live {P : State → Prop} {s : State} {t : Nat} {w : Worker} (hw : s.ws[t]? = some w)
    (hnd : w.status ≠ .done)
    (loc : ∀ w' b, Local s w w' b → P { s with stopped := b, ws := s.ws.set t w' })
    (pull : w.status = .running → w.buf = [] → s.stopped = false → avail s.len s.pos w.c ≠ 0 →
      P (pullS s t w)) : P (step s t) := by
  cases hst : w.status with
  | done => exact absurd hst hnd
  | publishing => rw [step_publish hw hst]; exact loc _ _ (.publish hst)
  | running =>
    cases hb : w.buf with
    | cons x rest =>
      cases hx : s.hit x with
      | true => rw [step_hit hw hst hb hx]; exact loc _ _ (.hit hst hb hx)
      | false => rw [step_nohit hw hst hb hx]; exact loc _ _ (.nohit hst hb hx)
    | nil =>
      by_cases hx : s.stopped = true ∨ avail s.len s.pos w.c = 0
      · rw [step_finish hw hst hb hx]; exact loc _ _ (.finish hst hb hx)
      · have hs : s.stopped = false := Bool.eq_false_iff.2 fun h => hx (Or.inl h)
        have hn : avail s.len s.pos w.c ≠ 0 := fun h => hx (Or.inr h)
        rw [step_pull hw hst hb hs hn]; exact pull hst hb hs hn

theorem step_idle_or_live (s : State) (t : Nat) :
    step s t = s ∨ ∃ w, s.ws[t]? = some w ∧ w.status ≠ .done := by
  cases hw : s.ws[t]? with
  | none => exact Or.inl (step_idle fun w hw' => by rw [hw] at hw'; cases hw')
  | some w =>
    by_cases hd : w.status = .done
    · exact Or.inl (step_idle fun v hv => by rw [hw] at hv; cases hv; exact hd)
    · exact Or.inr ⟨w, rfl, hd⟩

theorem allDone_step (s : State) (h : AllDone s) (t : Nat) : step s t = s :=
  step_idle fun w hw => h w (List.mem_of_getElem? hw)

theorem step_cases {P : State → Prop} (s : State) (t : Nat) (skip : P s)
    (loc : ∀ w w' b, s.ws[t]? = some w → Local s w w' b →
      P { s with stopped := b, ws := s.ws.set t w' })
    (pull : ∀ w, s.ws[t]? = some w → w.status = .running → w.buf = [] → s.stopped = false →
      avail s.len s.pos w.c ≠ 0 → P (pullS s t w)) : P (step s t) := by
  rcases step_idle_or_live s t with h | ⟨w, hw, hnd⟩
  · rw [h]; exact skip
  · exact step_live hw hnd (loc w · · hw) (pull w hw)

structure Frame (s s' : State) : Prop where
  ws : s'.ws.length = s.ws.length
  src : s'.src = s.src
  len : s'.len = s.len
  hit : s'.hit = s.hit

theorem Frame.trans {s s' s'' : State} (h : Frame s s') (h' : Frame s' s'') : Frame s s'' :=
  ⟨h'.ws.trans h.ws, h'.src.trans h.src, h'.len.trans h.len, h'.hit.trans h.hit⟩

theorem step_frame (s : State) (t : Nat) : Frame s (step s t) := by
  -- an idle step changes nothing; a local step and a pull replace one worker
  apply step_cases s t (P := Frame s) ⟨rfl, rfl, rfl, rfl⟩ <;> intros <;>
    exact ⟨List.length_set, rfl, rfl, rfl⟩

theorem run_frame (s : State) (sched : List Nat) : Frame s (run s sched) :=
  run_induction (P := Frame s) (fun s' t h => h.trans (step_frame s' t)) ⟨rfl, rfl, rfl, rfl⟩ sched

theorem step_ws_ne (s : State) {t t' : Nat} (h : t' ≠ t) : (step s t').ws[t]? = s.ws[t]? := by
  apply step_cases s t' (P := fun s' => s'.ws[t]? = s.ws[t]?) <;> intros <;>
    first | rfl | exact List.getElem?_set_ne h

theorem step_pos_le (s : State) (t : Nat) : s.pos ≤ (step s t).pos := by
  apply step_cases s t (P := fun s' => s.pos ≤ s'.pos) <;> intros <;>
    first | exact Nat.le_refl _ | exact Nat.le_add_right _ _

theorem Local.stopped {s : State} {w w' : Worker} {b : Bool} (hl : Local s w w' b)
    (hs : s.stopped = true) : b = true := by
  cases hl <;> first | rfl | exact hs

theorem Local.c_eq {s : State} {w w' : Worker} {b : Bool} (hl : Local s w w' b) : w'.c = w.c := by
  cases hl <;> rfl

theorem Local.buf_le {s : State} {w w' : Worker} {b : Bool} (hl : Local s w w' b) :
    w'.buf.length ≤ w.buf.length := by
  cases hl with
  | nohit _ hb _ => rw [hb]; exact Nat.le_succ _
  | hit => exact Nat.zero_le _
  | _ => exact Nat.le_refl _

theorem step_cs (s : State) (t : Nat) : (step s t).ws.map (·.c) = s.ws.map (·.c) := by
  have key : ∀ (w w' : Worker), s.ws[t]? = some w → w'.c = w.c →
      (s.ws.set t w').map (·.c) = s.ws.map (·.c) := by
    intro w w' hw hc
    obtain ⟨hlt, rfl⟩ := List.getElem?_eq_some_iff.1 hw
    rw [List.map_set, hc, ← List.getElem_map Worker.c (h := (List.length_map _).symm ▸ hlt),
      List.set_getElem_self]
  apply step_cases s t (P := fun s' => s'.ws.map (·.c) = s.ws.map (·.c)) rfl
  · intro w w' b hw hl; exact key w _ hw hl.c_eq
  · intro w hw _ _ _ _; exact key w _ hw rfl

def HasCs (cs : List Nat) (s : State) : Prop := s.ws.map (·.c) = cs

theorem HasCs.length {cs : List Nat} {s : State} (h : HasCs cs s) : s.ws.length = cs.length := by
  rw [← h, List.length_map]

theorem HasCs.step {cs : List Nat} {s : State} (h : HasCs cs s) (t : Nat) : HasCs cs (step s t) :=
  (step_cs s t).trans h

theorem init_cs (src : Nat → Val) (len : Option Nat) (hit : Val → Bool) (cs : List Nat) :
    HasCs cs (init src len hit cs) := by
  simp [HasCs, init, List.map_map, Function.comp_def]

/-- what can happen to a worker once the iterator is stopped: what it has evaluated grows, but
    stays within what it had evaluated or still held -/
def Consumes (w w' : Worker) : Prop :=
  w.seen <+: w'.seen ∧ w'.seen ++ idx w'.buf w'.bufPos <+: w.seen ++ idx w.buf w.bufPos

theorem Consumes.refl (w : Worker) : Consumes w w := ⟨List.prefix_rfl, List.prefix_rfl⟩

theorem Consumes.trans {w w' w'' : Worker} (h1 : Consumes w w') (h2 : Consumes w' w'') :
    Consumes w w'' :=
  ⟨h1.1.trans h2.1, h2.2.trans h1.2⟩

theorem Local.consumes {s : State} {w w' : Worker} {b : Bool} (hl : Local s w w' b) :
    Consumes w w' := by
  cases hl with
  | @hit x rest _ hb _ =>
    exact ⟨List.prefix_append _ _, idx rest (w.bufPos + 1),
      by rw [hb, idx_cons]; simp [hitW, idx_nil]⟩
  | nohit _ hb _ => exact ⟨List.prefix_append _ _, [], by rw [hb, idx_cons]; simp [nohitW]⟩
  | _ => exact .refl _

/-- what holds of every state reached from a stopped state `s` -/
structure After (s s' : State) : Prop where
  log : s'.log = s.log
  pos : s'.pos = s.pos
  stopped : s'.stopped = true
  ws : ∀ (t : Nat) (w' : Worker), s'.ws[t]? = some w' → ∃ w, s.ws[t]? = some w ∧ Consumes w w'

theorem After.refl {s : State} (hs : s.stopped = true) : After s s :=
  ⟨rfl, rfl, hs, fun _ w' hw' => ⟨w', hw', .refl w'⟩⟩

theorem After.step {s s' : State} (h : After s s') (t : Nat) : After s (step s' t) := by
  apply step_cases s' t (P := After s) h
  · intro w w' b hw hl
    refine ⟨h.log, h.pos, hl.stopped h.stopped, fun t' v' hv' => ?_⟩
    rcases get_set hw hv' with ⟨rfl, rfl⟩ | ⟨_, hv'⟩
    · obtain ⟨w₀, hw₀, hc⟩ := h.ws t' w hw
      exact ⟨w₀, hw₀, hc.trans hl.consumes⟩
    · exact h.ws t' v' hv'
  · intro w _ _ _ hs' _
    rw [h.stopped] at hs'; cases hs'

theorem run_stopped (s : State) (hs : s.stopped = true) (sched : List Nat) :
    After s (run s sched) :=
  run_induction (P := After s) (fun _ t h => h.step t) (.refl hs) sched

/-- what a worker still has to do once no pull succeeds: its buffer, then to publish or finish -/
def wt (w : Worker) : Nat :=
  w.buf.length + (match w.status with | .running => 2 | .publishing => 1 | .done => 0)

def phi (s : State) : Nat := (s.ws.map wt).sum

/-- the measure of the finite case: every step of an unfinished worker lowers it (`step_measure`) -/
def measure (s : State) (l : Nat) : Nat :=
  2 * (l - s.pos) + (s.ws.map fun w =>
    w.buf.length + (match w.status with | .running => 2 | .publishing => 1 | .done => 0)).sum

theorem measure_eq (s : State) (l : Nat) : measure s l = 2 * (l - s.pos) + phi s := rfl

theorem sum_map_set {α : Type} (f : α → Nat) (ws : List α) (t : Nat) (w w' : α)
    (h : ws[t]? = some w) : ((ws.set t w').map f).sum + f w = (ws.map f).sum + f w' := by
  obtain ⟨hlt, rfl⟩ := List.getElem?_eq_some_iff.1 h
  rw [List.set_eq_take_append_cons_drop, if_pos hlt]
  conv => rhs; rw [← List.take_append_drop t ws, List.drop_eq_getElem_cons hlt]
  simp only [List.map_append, List.map_cons, List.sum_append_nat, List.sum_cons]
  omega

/-- `D`: the positions below some bound that are still to be handed out.  After a pull of size
    `c` that yields `a` elements, what is left of them and what the pull yields of them are together
    at most `D` -/
theorem pull_le {a c : Nat} (D : Nat) (ha : a ≤ c) : D - c + min a D ≤ D :=
  calc D - c + min a D ≤ D - c + min D c :=
        Nat.add_le_add_left
          (Nat.le_min.2 ⟨Nat.min_le_right a D, Nat.le_trans (Nat.min_le_left a D) ha⟩) _
    _ = D := Nat.sub_add_min_cancel D c

theorem Local.wt_lt {s : State} {w w' : Worker} {b : Bool} (hl : Local s w w' b) :
    wt w' < wt w := by
  cases hl with
  | publish hst => simp [wt, hst]
  | hit hst hb _ => simp [wt, hitW, hst, hb]
  | nohit hst hb _ => simp [wt, nohitW, hst, hb]
  | finish hst hb _ => simp [wt, hst, hb]

theorem phi_local {s : State} {t : Nat} {w w' : Worker} {b : Bool} (hw : s.ws[t]? = some w)
    (hl : Local s w w' b) : phi { s with stopped := b, ws := s.ws.set t w' } < phi s :=
  -- `phi s' + wt w = phi s + wt w'` and `wt w' < wt w`
  Nat.lt_of_add_lt_add_right (sum_map_set wt s.ws t w w' hw ▸ Nat.add_lt_add_left hl.wt_lt _)

theorem phi_pull {s : State} {t : Nat} {w : Worker} (hw : s.ws[t]? = some w)
    (hst : w.status = .running) (hb : w.buf = []) :
    phi (pullS s t w) = phi s + avail s.len s.pos w.c := by
  have h1 := sum_map_set wt s.ws t w
    { w with buf := slice s.src s.pos (avail s.len s.pos w.c), bufPos := s.pos } hw
  have e1 : wt w = 2 := by simp [wt, hst, hb]
  have e2 : wt { w with buf := slice s.src s.pos (avail s.len s.pos w.c), bufPos := s.pos } =
      avail s.len s.pos w.c + 2 := by simp [wt, hst, slice_length]
  rw [e1, e2, ← Nat.add_assoc] at h1
  exact Nat.add_right_cancel h1

theorem step_measure (s : State) (l : Nat) (hl : s.len = some l) (t : Nat) (w : Worker)
    (hw : s.ws[t]? = some w) (hnd : w.status ≠ .done) :
    measure (step s t) l < measure s l := by
  rw [measure_eq]
  refine step_live (P := fun s' => measure s' l < 2 * (l - s.pos) + phi s) hw hnd
    (fun w' b hl => Nat.add_lt_add_left (phi_local hw hl) _) fun hst hb _ hn => ?_
  rw [measure_eq, phi_pull hw hst hb]
  rw [hl] at hn ⊢
  -- with `D = l - s.pos` and `m = min w.c D`, which is positive:
  -- `2 * (D - w.c) + (phi s + m) < 2 * (D - w.c + m) + phi s ≤ 2 * D + phi s`
  refine Nat.lt_of_lt_of_le ?_
    (Nat.add_le_add_right (Nat.mul_le_mul_left 2 (pull_le (l - s.pos) (Nat.le_refl w.c))) (phi s))
  show 2 * (l - (s.pos + w.c)) + (phi s + min w.c (l - s.pos)) < _
  rw [Nat.sub_add_eq, Nat.mul_add, Nat.two_mul (min _ _), Nat.add_comm (phi s), ← Nat.add_assoc,
    ← Nat.add_assoc]
  exact Nat.add_lt_add_right (Nat.lt_add_of_pos_right (Nat.pos_of_ne_zero hn)) _

end Run
end OrxPar
