/- A generic progress argument for fair rounds over the worker transition system. -/
import OrxPar.Lemmas.RunStep
namespace OrxPar
namespace Run

/-- a potential argument under fair scheduling: short of the target `T` there is an *active* worker
    whose next step, whenever it comes, lowers `μ` or reaches `T` (`fire`); until then the steps of
    the others keep it active, or do that themselves (`keep`) -/
structure Progress (n : Nat) (G T : State → Prop) (μ : State → Nat)
    (Act : State → Nat → Prop) : Prop where
  gstep : ∀ s t, G s → G (step s t)
  tstep : ∀ s t, G s → T s → T (step s t)
  mono : ∀ s t, G s → ¬ T s → μ (step s t) ≤ μ s ∨ T (step s t)
  act : ∀ s, G s → ¬ T s → ∃ t, t < n ∧ Act s t
  keep : ∀ s t t', G s → ¬ T s → Act s t → t' ≠ t →
    Act (step s t') t ∨ μ (step s t') < μ s ∨ T (step s t')
  fire : ∀ s t, G s → ¬ T s → Act s t → μ (step s t) < μ s ∨ T (step s t)

/-- `rs`: fair rounds, each containing every worker `t < n` -/
def Leads (n : Nat) (G : State → Prop) (b : State → Nat) (G' : State → Prop) : Prop :=
  ∀ s (rs : List (List Nat)), G s → (∀ r ∈ rs, ∀ t, t < n → t ∈ r) → b s ≤ rs.length →
    G' (run s rs.flatten)

/-- at the target, or with potential below `k`: at most `k` fair rounds away from it -/
def Near (T : State → Prop) (μ : State → Nat) (k : Nat) (s : State) : Prop := T s ∨ μ s < k

namespace Progress
variable {n : Nat} {G T : State → Prop} {μ : State → Nat} {Act : State → Nat → Prop}

theorem grun (P : Progress n G T μ Act) (s : State) (r : List Nat) (h : G s) : G (run s r) :=
  run_induction P.gstep h r

theorem near_step (P : Progress n G T μ Act) {k : Nat} {s : State} (t : Nat) (h : G s)
    (hn : Near T μ k s) : Near T μ k (step s t) := by
  by_cases hT : T s
  · exact Or.inl (P.tstep s t h hT)
  · exact (P.mono s t h hT).symm.imp_right (Nat.lt_of_le_of_lt · (hn.resolve_left hT))

theorem near_run (P : Progress n G T μ Act) {k : Nat} {s : State} (r : List Nat) (h : G s)
    (hn : Near T μ k s) : Near T μ k (run s r) :=
  (run_induction (P := fun s => G s ∧ Near T μ k s)
    (fun s t h => ⟨P.gstep s t h.1, P.near_step t h.1 h.2⟩) ⟨h, hn⟩ r).2

/-- until `t`'s turn every step of another worker keeps `t` active or lowers `μ` already; then
    `t`'s own step fires, and what is near stays near (`near_run`) -/
theorem act_run (P : Progress n G T μ Act) (t : Nat) {k : Nat} (s : State) (r : List Nat) (h : G s)
    (hn : Near T μ (k + 1) s) (ha : Act s t) (hr : t ∈ r) : Near T μ k (run s r) := by
  induction r generalizing s with
  | nil => cases hr
  | cons t' ts ih =>
    rw [run_cons]
    have hg := P.gstep s t' h
    have done : Near T μ k (step s t') → Near T μ k (run (step s t') ts) := P.near_run ts hg
    by_cases hT : T s
    · exact done (Or.inl (P.tstep s t' h hT))
    · have low : μ (step s t') < μ s ∨ T (step s t') → Near T μ k (step s t') := fun h1 =>
        h1.symm.imp_right (Nat.lt_of_lt_of_le · (Nat.le_of_lt_succ (hn.resolve_left hT)))
      by_cases htt : t' = t
      · subst htt
        exact done (low (P.fire s t' h hT ha))
      · rcases P.keep s t t' h hT ha htt with h1 | h1
        · exact ih _ hg (P.near_step t' h hn) h1 ((List.mem_cons.1 hr).resolve_left (Ne.symm htt))
        · exact done (low h1)

theorem rounds (P : Progress n G T μ Act) (s : State) (rs : List (List Nat)) (h : G s)
    (hf : ∀ r ∈ rs, ∀ t, t < n → t ∈ r) :
    T (run s rs.flatten) ∨ μ (run s rs.flatten) + rs.length ≤ μ s := by
  induction rs generalizing s with
  | nil => exact Or.inr (Nat.le_refl _)
  | cons r rs ih =>
    rw [List.flatten_cons, run_append]
    have hg := P.grun s r h
    -- one fair round takes `Near (μ s + 1)`, which holds of `s`, to `Near (μ s)`
    have round : Near T μ (μ s) (run s r) := by
      by_cases hT : T s
      · exact P.near_run r h (Or.inl hT)
      · obtain ⟨t, htn, ha⟩ := P.act s h hT
        exact P.act_run t s r h (Or.inr (Nat.lt_succ_self _)) ha (hf r (List.mem_cons_self ..) t htn)
    rcases round with h1 | h1
    · -- `Near T μ 0` is `T`
      exact Or.inl ((P.near_run (k := 0) _ hg (Or.inl h1)).resolve_right (Nat.not_lt_zero _))
    · rcases ih (run s r) hg (fun r' hr' => hf r' (List.mem_cons_of_mem _ hr')) with h2 | h2
      · exact Or.inl h2
      · exact Or.inr (Nat.le_trans (Nat.succ_le_succ h2) h1)

theorem leads (P : Progress n G T μ Act) : Leads n G (fun s => μ s + 1) (fun s => T s ∧ G s) := by
  intro s rs h hf (hlen : μ s + 1 ≤ rs.length)
  refine ⟨?_, P.grun s _ h⟩
  rcases P.rounds s rs h hf with h1 | h1
  · exact h1
  · exact absurd (Nat.le_trans (Nat.le_add_left _ _) h1) (Nat.not_le_of_gt hlen)

end Progress

/-- an unfinished worker -/
def ActND (s : State) (t : Nat) : Prop := ∃ w, s.ws[t]? = some w ∧ w.status ≠ .done

theorem actND_exists {n : Nat} (s : State) (hlen : s.ws.length = n) (h : ¬ AllDone s) :
    ∃ t, t < n ∧ ActND s t := by
  obtain ⟨w, hw⟩ := Classical.not_forall.1 h
  obtain ⟨hm, hnd⟩ := Classical.not_imp.1 hw
  obtain ⟨t, ht⟩ := List.getElem?_of_mem hm
  exact ⟨t, hlen ▸ get_lt ht, w, ht, hnd⟩

/-- where every step of an unfinished worker lowers the potential, any unfinished worker is active -/
theorem Progress.of_dec {n : Nat} {G : State → Prop} {μ : State → Nat}
    (gstep : ∀ s t, G s → G (step s t)) (len : ∀ s, G s → s.ws.length = n)
    (dec : ∀ s t w, G s → s.ws[t]? = some w → w.status ≠ .done → μ (step s t) < μ s) :
    Progress n G AllDone μ ActND where
  gstep := gstep
  tstep := fun s t _ h => by rw [allDone_step s h t]; exact h
  mono := by
    intro s t h _
    rcases step_idle_or_live s t with e | ⟨w, hw, hnd⟩
    · rw [e]; exact Or.inl (Nat.le_refl _)
    · exact Or.inl (Nat.le_of_lt (dec s t w h hw hnd))
  act := fun s h hnd => actND_exists s (len s h) hnd
  keep := fun s t t' _ _ ⟨w, hw, hnd⟩ htt => Or.inl ⟨w, (step_ws_ne s htt).trans hw, hnd⟩
  fire := fun s t h _ ⟨w, hw, hnd⟩ => Or.inl (dec s t w h hw hnd)

theorem Leads.trans {n B : Nat} {G G₁ G₂ G₃ : State → Prop} {b₁ b₂ : State → Nat}
    (h₁ : Leads n G b₁ G₁) (h₂ : Leads n G₂ b₂ G₃) (hG : ∀ s, G₁ s → G₂ s ∧ b₂ s ≤ B) :
    Leads n G (fun s => b₁ s + B) G₃ := by
  intro s rs h hf (hlen : b₁ s + B ≤ rs.length)
  have h1 := h₁ s (rs.take (b₁ s)) h (fun r hr => hf r (List.mem_of_mem_take hr))
    (by rw [List.length_take]
        exact Nat.le_min.2 ⟨Nat.le_refl _, Nat.le_trans (Nat.le_add_right _ _) hlen⟩)
  obtain ⟨h2, hb⟩ := hG _ h1
  rw [← List.take_append_drop (b₁ s) rs, List.flatten_append, run_append]
  exact h₂ _ _ h2 (fun r hr => hf r (List.mem_of_mem_drop hr))
    (by rw [List.length_drop]; exact Nat.le_trans hb (Nat.le_sub_of_add_le' hlen))

end Run
end OrxPar
