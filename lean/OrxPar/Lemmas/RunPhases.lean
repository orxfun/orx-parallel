/- Termination under fair rounds: the invariants and potentials of the two phases (A: until the
   iterator is stopped, B: until everybody is done), their composition, and the finite case. -/
import OrxPar.Lemmas.RunProgress
import OrxPar.Lemmas.Run
namespace OrxPar
namespace Run

theorem running_of_buf {s : State} {t : Nat} {w : Worker} (h : WInv s t w) (hb : w.buf ≠ []) :
    w.status = .running := by
  cases hst : w.status with
  | running => rfl
  | publishing => exact absurd (h.buf_nil (h.publishing hst)) hb
  | done => exact absurd (h.fin hst).1 hb

/-- the owner of a match at `m` has found something and is about to publish, or it has neither
    evaluated nor dropped `m`, which is then still in its buffer -/
theorem Inv.holder {s : State} (h : Inv s) (hns : ¬ s.stopped = true) {m : Nat}
    (hm : s.hit (s.src m) = true) (hc : m < covered s) :
    ∃ (t : Nat) (w : Worker), s.ws[t]? = some w ∧
      (w.status = .publishing ∨ w.status = .running ∧ w.buf ≠ [] ∧ w.bufPos ≤ m) := by
  obtain ⟨t, w, hw, hp⟩ := h.owner hc
  have hwi := h.ws t w hw
  refine ⟨t, w, hw, ?_⟩
  cases hf : w.found with
  | some q =>
    left
    cases hst : w.status with
    | publishing => rfl
    | running => rw [hwi.running hst] at hf; cases hf
    | done => exact absurd (h.pubstop t w hw (hf ▸ rfl) hst) hns
  | none =>
    obtain ⟨hnh, hd⟩ := hwi.nofound hf
    rw [hwi.own, hd, List.append_nil, List.mem_append] at hp
    rcases hp with hp | hp
    · have := hnh _ hp; rw [hm] at this; cases this
    · have hb : w.buf ≠ [] := fun e => by rw [e] at hp; cases hp
      exact Or.inr ⟨running_of_buf hwi hb, hb, (mem_idx_iff.1 hp).1⟩

/-- the number of buffered positions below `M` -/
def cnt (M : Nat) (w : Worker) : Nat := min w.buf.length (M - w.bufPos)

/-- the positions below `M` not yet evaluated: still to be handed out, or buffered -/
def unseen (M : Nat) (s : State) : Nat := (M - s.pos) + (s.ws.map (cnt M)).sum

/-- the potential of phase A: the positions below `M` still to be handed out plus those still to
    be evaluated.  Neither summand ever increases; a pull lowers the first (and leaves the second:
    what it hands out it buffers), an evaluation the second -/
def psi (M : Nat) (s : State) : Nat := (M - s.pos) + unseen M s

theorem unseen_set {M : Nat} {s : State} {t p : Nat} {b : Bool} {L : List Chunk} {w w' : Worker}
    (d : Nat) (hw : s.ws[t]? = some w) (h : (M - p) + cnt M w' + d ≤ (M - s.pos) + cnt M w) :
    unseen M { s with pos := p, stopped := b, ws := s.ws.set t w', log := L } + d ≤ unseen M s := by
  have := sum_map_set (cnt M) s.ws t w w' hw
  simp only [unseen]
  omega

theorem cnt_nohit (M : Nat) (w : Worker) (x : Val) (rest : List Val) (hb : w.buf = x :: rest) :
    cnt M (nohitW w x rest) = cnt M w - 1 := by
  show min rest.length (M - (w.bufPos + 1)) = min w.buf.length (M - w.bufPos) - 1
  rw [hb, Nat.sub_add_eq, ← Nat.sub_min_sub_right]
  rfl

theorem Local.cnt_le {s : State} {w w' : Worker} {b : Bool} (hl : Local s w w' b) (M : Nat) :
    cnt M w' ≤ cnt M w := by
  cases hl with
  | hit => exact Nat.le_trans (Nat.min_le_left _ _) (Nat.zero_le _)
  | nohit _ hb _ => exact cnt_nohit M w _ _ hb ▸ Nat.sub_le _ _
  | _ => exact Nat.le_refl _

/-- an evaluation below `M`, hit or not -/
theorem Local.cnt_lt {s : State} {w w' : Worker} {b : Bool} {M : Nat} (hl : Local s w w' b)
    (hst : w.status = .running) (hb : w.buf ≠ []) (hlt : w.bufPos < M) : cnt M w' < cnt M w := by
  have hpos : 0 < cnt M w := Nat.lt_min.2 ⟨List.length_pos_iff.2 hb, Nat.sub_pos_of_lt hlt⟩
  cases hl with
  | publish hp => rw [hst] at hp; cases hp
  | hit => exact Nat.lt_of_le_of_lt (Nat.min_le_left _ _) hpos
  | nohit _ hb' _ => exact cnt_nohit M w _ _ hb' ▸ Nat.sub_lt hpos Nat.one_pos
  | finish _ hb' _ => exact absurd hb' hb

theorem unseen_step (M : Nat) (s : State) (t : Nat) : unseen M (step s t) ≤ unseen M s := by
  apply step_cases s t (P := fun s' => unseen M s' ≤ unseen M s) (Nat.le_refl _)
  · intro w w' b hw hl
    apply unseen_set 0 hw (Nat.add_le_add_left (hl.cnt_le M) _)
  · intro w hw _ hb _ _
    have ha := pull_le (M - s.pos) (avail_le s.len s.pos w.c)
    rw [← Nat.sub_add_eq] at ha
    have e1 : cnt M w = 0 := by rw [cnt, hb]; exact Nat.zero_min _
    have e2 : cnt M { w with buf := slice s.src s.pos (avail s.len s.pos w.c), bufPos := s.pos } =
        min (avail s.len s.pos w.c) (M - s.pos) := by rw [cnt, slice_length]
    apply unseen_set 0 hw (by rw [e1, e2]; exact ha)

theorem psi_step (M : Nat) (s : State) (t : Nat) :
    psi M (step s t) ≤ psi M s ∧
    (s.pos < M → s.pos < (step s t).pos → psi M (step s t) < psi M s) :=
  ⟨Nat.add_le_add (Nat.sub_le_sub_left (step_pos_le s t) M) (unseen_step M s t),
    fun h1 h2 => Nat.add_lt_add_of_lt_of_le (Nat.sub_lt_sub_left h1 h2) (unseen_step M s t)⟩

theorem psi_set_lt {M : Nat} {s : State} {t : Nat} {b : Bool} {w w' : Worker}
    (hw : s.ws[t]? = some w) (h : cnt M w' < cnt M w) :
    psi M { s with stopped := b, ws := s.ws.set t w' } < psi M s :=
  Nat.add_lt_add_left (unseen_set 1 hw (Nat.add_le_add_left h _)) _

/-- what phase A keeps (`G`: the guarantee of a `Progress`): the invariant, the chunk sizes, a
    match at position `m` inside the source -/
structure GA (cs : List Nat) (m : Nat) (s : State) : Prop where
  inv : Inv s
  hcs : HasCs cs s
  ne : cs ≠ []
  hitm : s.hit (s.src m) = true
  inm : ∀ l, s.len = some l → m < l

theorem GA.not_exhausted {cs : List Nat} {m : Nat} {s : State} (h : GA cs m s) (hp : s.pos ≤ m) :
    ¬ ∃ l, s.len = some l ∧ l ≤ s.pos :=
  fun ⟨l, hl, hle⟩ => Nat.lt_irrefl m (Nat.lt_of_lt_of_le (h.inm l hl) (Nat.le_trans hle hp))

/-- a worker whose next step stops the iterator or lowers `psi`: a finder that has yet to publish;
    the holder of a position up to `m`; one that will pull such a position -/
def ActA (m : Nat) (s : State) (t : Nat) : Prop :=
  ∃ w, s.ws[t]? = some w ∧ (w.status = .publishing ∨ w.status = .running ∧
    ((w.buf ≠ [] ∧ w.bufPos ≤ m) ∨ (w.buf = [] ∧ s.pos ≤ m)))

/-- phase A: until the iterator is stopped.  Short of that somebody is about to publish, or to
    evaluate or pull a position up to `m` (worker 0 before `m` is handed out, its owner afterwards) -/
theorem progressA (cs : List Nat) (m : Nat) :
    Progress cs.length (GA cs m) (fun s => s.stopped = true) (psi (m + 1)) (ActA m) where
  gstep := fun s t h =>
    have f := step_frame s t
    ⟨step_inv s t h.inv, h.hcs.step t, h.ne, by rw [f.src, f.hit]; exact h.hitm,
      by rw [f.len]; exact h.inm⟩
  tstep := fun _ t _ h => ((After.refl h).step t).stopped
  mono := fun s t _ _ => Or.inl (psi_step (m + 1) s t).1
  act := by
    intro s h hns
    by_cases hp : s.pos ≤ m
    · -- nothing beyond `m` was handed out and the source is not exhausted: worker 0 is not done
      have h0 : 0 < s.ws.length := h.hcs.length ▸ List.length_pos_iff.2 h.ne
      have hw0 : s.ws[0]? = some s.ws[0] := List.getElem?_eq_getElem h0
      have hwi := h.inv.ws 0 _ hw0
      refine ⟨0, h.hcs.length ▸ h0, _, hw0, ?_⟩
      cases hst : (s.ws[0]).status with
      | publishing => exact Or.inl rfl
      | done => exact absurd (h.inv.exhausted hns hw0 hst) (h.not_exhausted hp)
      | running =>
        refine Or.inr ⟨rfl, ?_⟩
        cases hb : (s.ws[0]).buf with
        | nil => exact Or.inr ⟨rfl, hp⟩
        | cons x rest =>
          have := (h.inv.mem_log (t := 0) (p := ((s.ws[0]).bufPos, x))
            (by rw [hwi.own, hb, idx_cons]; simp)).1
          exact Or.inl ⟨List.cons_ne_nil _ _,
            Nat.le_trans (Nat.le_of_lt this) (Nat.le_trans (covered_le s) hp)⟩
    · -- `m` was handed out: its owner
      have hc : m < covered s := by
        rw [covered_eq_cov]
        cases hl : s.len with
        | none => exact Nat.lt_of_not_le hp
        | some l => exact Nat.lt_min.2 ⟨Nat.lt_of_not_le hp, h.inm l hl⟩
      obtain ⟨t0, w0, hw0, ha⟩ := h.inv.holder hns h.hitm hc
      exact ⟨t0, h.hcs.length ▸ get_lt hw0, w0, hw0, ha.imp_right (.imp_right Or.inl)⟩
  keep := by
    intro s t t' h _ ⟨w, hw, hc⟩ htt
    have hw' : (step s t').ws[t]? = some w := (step_ws_ne s htt).trans hw
    rcases hc with hst | ⟨hst, hc | ⟨hb, hp⟩⟩
    · exact Or.inl ⟨w, hw', Or.inl hst⟩
    · exact Or.inl ⟨w, hw', Or.inr ⟨hst, Or.inl hc⟩⟩
    · -- `t` waits to pull: either it still can, or somebody else has pulled beyond `m`
      by_cases hle : (step s t').pos ≤ m
      · exact Or.inl ⟨w, hw', Or.inr ⟨hst, Or.inr ⟨hb, hle⟩⟩⟩
      · exact Or.inr (Or.inl ((psi_step (m + 1) s t').2 (Nat.lt_succ_of_le hp)
          (Nat.lt_of_le_of_lt hp (Nat.lt_of_not_le hle))))
  fire := by
    intro s t h hns ⟨w, hw, hc⟩
    rcases hc with hst | ⟨hst, ⟨hb, hp⟩ | ⟨hb, hp⟩⟩
    · right
      rw [step_publish hw hst]
    · left
      exact step_live (P := fun s' => psi (m + 1) s' < psi (m + 1) s) hw (hst ▸ nofun)
        (fun w' b hl => psi_set_lt hw (hl.cnt_lt hst hb (Nat.lt_succ_of_le hp)))
        (fun _ hb' => absurd hb' hb)
    · left
      have hc := (h.inv.ws t w hw).cpos
      have hn : avail s.len s.pos w.c ≠ 0 := fun h0 =>
        (avail_eq_zero.1 h0).elim (Nat.ne_of_gt hc) (h.not_exhausted hp)
      refine (psi_step (m + 1) s t).2 (Nat.lt_succ_of_le hp) ?_
      rw [step_pull hw hst hb (Bool.eq_false_iff.2 hns) hn]
      exact Nat.lt_add_of_pos_right hc

/-- what phase B keeps: the iterator is stopped -/
structure GB2 (n : Nat) (s : State) : Prop where
  stopped : s.stopped = true
  len : s.ws.length = n

theorem progressB (n : Nat) : Progress n (GB2 n) AllDone phi ActND :=
  .of_dec (fun s t h => ⟨((After.refl h.stopped).step t).stopped, (step_frame s t).ws.trans h.len⟩)
    (fun _ h => h.len)
    (fun s t w h hw hnd => step_live (P := fun s' => phi s' < phi s) hw hnd
      (fun _ _ => phi_local hw) fun _ _ hs _ => by rw [h.stopped] at hs; cases hs)

theorem sum_le_add_const {α : Type} (f g : α → Nat) (k : Nat) (l : List α)
    (h : ∀ x ∈ l, f x ≤ g x + k) : (l.map f).sum ≤ (l.map g).sum + k * l.length := by
  induction l with
  | nil => exact Nat.le_refl _
  | cons a l ih =>
    rw [List.map_cons, List.sum_cons, List.map_cons, List.sum_cons, List.length_cons, Nat.mul_succ,
      Nat.add_comm (k * _) k, Nat.add_add_add_comm]
    exact Nat.add_le_add (h a List.mem_cons_self) (ih fun x hx => h x (List.mem_cons_of_mem _ hx))

theorem phi_le {cs : List Nat} (s : State) (h : Inv s) (hcs : HasCs cs s) :
    phi s ≤ cs.sum + 2 * cs.length := by
  rw [← hcs.length, ← hcs]
  apply sum_le_add_const
  intro w hw
  obtain ⟨t, ht⟩ := List.getElem?_of_mem hw
  exact Nat.add_le_add (h.small t w ht) (by cases w.status <;> decide)

/-- the finite case: what is kept is that the source has length `l` (`Frame`) -/
theorem progressF {s₀ : State} {l : Nat} (hl : s₀.len = some l) :
    Progress s₀.ws.length (Frame s₀) AllDone (fun s => measure s l) ActND :=
  .of_dec (fun s t h => h.trans (step_frame s t)) (fun _ h => h.ws)
    (fun s t w h hw hnd => step_measure s l (h.len.trans hl) t w hw hnd)

theorem init_sum (src : Nat → Val) (len : Option Nat) (hit : Val → Bool) (cs : List Nat)
    (f : Worker → Nat) (k : Nat) (hf : ∀ c, f ⟨c, [], 0, .running, [], none, []⟩ = k) :
    ((init src len hit cs).ws.map f).sum = k * cs.length := by
  rw [init, List.map_map, (funext hf : f ∘ _ = fun _ => k), List.map_const', List.sum_replicate_nat,
    Nat.mul_comm]

theorem init_psi (src : Nat → Val) (len : Option Nat) (hit : Val → Bool) (cs : List Nat)
    (M : Nat) : psi M (init src len hit cs) = 2 * M := by
  rw [psi, unseen, init_sum src len hit cs (cnt M) 0 fun _ => Nat.zero_min _, Nat.zero_mul]
  exact (Nat.two_mul M).symm

theorem init_measure (src : Nat → Val) (l : Nat) (hit : Val → Bool) (cs : List Nat) :
    measure (init src (some l) hit cs) l = 2 * l + 2 * cs.length := by
  rw [measure_eq, phi, init_sum src (some l) hit cs wt 2 fun _ => rfl]
  rfl

def FairRound (n : Nat) (r : List Nat) : Prop := ∀ t, t < n → t ∈ r

/-- depends on the position `m` of a match and the workers' chunk sizes only, not on the length of
    the source, which may be unbounded -/
def termBound (m : Nat) (cs : List Nat) : Nat := 2 * (m + 1) + cs.sum + 2 * cs.length + 4

/-- within `psi + 1` fair rounds the iterator is stopped, another `phi + 1 ≤ Σ cs + 2·#workers + 1`
    and everybody has finished what it holds -/
theorem leads_allDone (cs : List Nat) (m : Nat) :
    Leads cs.length (GA cs m) (fun s => psi (m + 1) s + 1 + (cs.sum + 2 * cs.length + 1))
      (fun s => AllDone s ∧ GB2 cs.length s) :=
  (progressA cs m).leads.trans (progressB cs.length).leads fun s ⟨hs, hg⟩ =>
    ⟨⟨hs, hg.hcs.length⟩, Nat.succ_le_succ (phi_le s hg.inv hg.hcs)⟩

theorem allDone_stable (s : State) (h : AllDone s) (sched : List Nat) : AllDone (run s sched) :=
  run_induction (P := AllDone) (fun s' t h' => (allDone_step s' h' t).symm ▸ h') h sched

/-- finite sources need no match -/
theorem terminates_fair_finite (src : Nat → Val) (l : Nat) (hit : Val → Bool) (cs : List Nat)
    (hne : cs ≠ []) (hpos : ∀ c ∈ cs, 0 < c)
    (rounds : List (List Nat)) (hfair : ∀ r ∈ rounds, FairRound cs.length r)
    (hlen : 2 * l + cs.sum + 2 * cs.length + 4 ≤ rounds.length) :
    AllDone (run (init src (some l) hit cs) rounds.flatten) := by
  refine ((progressF (s₀ := init src (some l) hit cs) rfl).leads _ rounds ⟨rfl, rfl, rfl, rfl⟩
    ((init_cs src (some l) hit cs).length ▸ hfair) ?_).1
  show measure (init src (some l) hit cs) l + 1 ≤ _
  rw [init_measure]
  -- `2 * l + 2 * cs.length + 1` rounds are enough; the bound in `hlen` is more generous
  exact Nat.le_trans
    (Nat.add_le_add (Nat.add_le_add_right (Nat.le_add_right _ cs.sum) _) (by decide : 1 ≤ 4)) hlen

end Run
end OrxPar
