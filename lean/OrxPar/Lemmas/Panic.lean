/- Panic propagation through `Runner::{run, run_map, reduce}`. -/
import OrxPar.Model.Panic
import OrxPar.Lemmas.Logged
namespace OrxPar
open Scope

theorem any_isPanicked_map_ok {β : Type} (bs : List β) :
    (bs.map (WRes.ok)).any WRes.isPanicked = false :=
  List.any_map.trans (List.any_eq_false.2 fun _ _ => Bool.false_ne_true)

theorem joinAllExpect_ok {β : Type} (bs : List β) :
    joinAllExpect (bs.map WRes.ok) = (.ret bs, []) := by
  induction bs with
  | nil => rfl
  | cons b bs ih => simp only [List.map_cons, joinAllExpect, ih]

theorem joinAllExpect_panics {β : Type} (ws : List (WRes β)) (h : ws.any WRes.isPanicked = true) :
    (joinAllExpect ws).1 = .panic := by
  induction ws with
  | nil => cases h
  | cons w ws ih =>
    cases w with
    | panicked => rfl
    | ok b =>
      -- `(.ok b :: ws).any isPanicked` computes to `ws.any isPanicked`: the join of `ws` panics,
      -- and the `match` in `joinAllExpect` passes that on
      unfold joinAllExpect
      rw [show joinAllExpect ws = (.panic, (joinAllExpect ws).2) from Prod.ext (ih h) rfl]

theorem joinReduceExpect_ok {β : Type} (op : β → β → β) (acc : Option β) (bs : List β) :
    joinReduceExpect op acc (bs.map WRes.ok)
      = (.ret (match acc with
          | none => K.reduceList op bs
          | some a => some (bs.foldl op a)), []) := by
  induction bs generalizing acc with
  | nil => cases acc <;> rfl
  | cons b bs ih =>
    cases acc with
    | none => exact ih (some b)
    | some a => exact ih (some (op a b))

theorem joinReduceExpect_panics {β : Type} (op : β → β → β) (acc : Option β) (ws : List (WRes β))
    (h : ws.any WRes.isPanicked = true) : (joinReduceExpect op acc ws).1 = .panic := by
  induction ws generalizing acc with
  | nil => cases h
  | cons w ws ih =>
    cases w with
    | panicked => cases acc <;> rfl
    | ok b =>
      cases acc with
      | none => exact ih (some b) h
      | some a => exact ih (some (op a b)) h

theorem RunnerP.run_eq (ws : List (WRes Unit)) :
    RunnerP.run ws = if ws.any WRes.isPanicked then .panic else .ret ws.length := rfl

theorem RunnerP.runMap_panics {β : Type} (ws : List (WRes β)) (h : ws.any WRes.isPanicked = true) :
    RunnerP.runMap ws = .panic := by
  unfold RunnerP.runMap
  simp only [joinAllExpect_panics ws h, scope]

theorem RunnerP.runMap_ok {β : Type} (bs : List β) :
    RunnerP.runMap (bs.map WRes.ok) = .ret bs := by
  unfold RunnerP.runMap
  rw [joinAllExpect_ok]
  rfl

theorem RunnerP.reduce_panics {β : Type} (ws : List (WRes β)) (op : β → β → β)
    (h : ws.any WRes.isPanicked = true) : RunnerP.reduce ws op = .panic := by
  unfold RunnerP.reduce
  simp only [joinReduceExpect_panics op none ws h, scope]

theorem RunnerP.reduce_ok {β : Type} (bs : List β) (op : β → β → β) :
    RunnerP.reduce (bs.map WRes.ok) op = .ret (bs.length, K.reduceList op bs) := by
  unfold RunnerP.reduce
  rw [joinReduceExpect_ok, List.length_map]
  rfl

theorem workerRes_map_ok {β : Type} (evs : Nat → List Event) (pe : Event) (val : Nat → β)
    (order : List Nat) (h : ∀ t ∈ order, pe ∉ evs t) :
    order.map (workerRes evs pe val) = (order.map val).map WRes.ok := by
  rw [List.map_map]
  exact List.map_congr_left fun t ht => if_neg (mt List.contains_iff_mem.1 (h t ht))

theorem workerRes_any_panicked {β : Type} (evs : Nat → List Event) (pe : Event) (val : Nat → β)
    (order : List Nat) (h : ∃ t ∈ order, pe ∈ evs t) :
    (order.map (workerRes evs pe val)).any WRes.isPanicked = true := by
  obtain ⟨t, ht, hp⟩ := h
  rw [List.any_map, List.any_eq_true]
  exact ⟨t, ht, congrArg WRes.isPanicked (if_pos (List.contains_iff_mem.2 hp))⟩

theorem Par.mem_workerEvents (P : Par) (ex : Exec) (h : ex.Accepts P.src.items) (pe : Event) :
    (∃ t ∈ ex.order, pe ∈ P.workerEvents ex t) ↔ pe ∈ P.stream.log := by
  rw [← (Par.parLog_perm P ex h).mem_iff, Par.parLog, List.mem_flatMap]
  rfl

end OrxPar
