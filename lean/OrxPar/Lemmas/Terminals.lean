/- The terminals of all eight types, for every accepted execution, in terms of the
   sequential stream of the pipeline.  Each type delegates to one of three kernel families
   (`Par.shape`); each kernel computes a function of `src.flatMap surv`, `surv x` the survivors of
   one source element, and that is `(P.elem x).vals`. -/
import OrxPar.Lemmas.Collect
import OrxPar.Lemmas.Bag
import OrxPar.Lemmas.Find
import OrxPar.Lemmas.Chain
namespace OrxPar
open K Kern

/-- the `match params.is_sequential()` of every kernel entry point -/
theorem seq_or {α : Type} {p : Params} {A : Prop} (h : p.isSequential = true ∨ A) (R : α → Prop)
    {a b : α} (ha : p.isSequential = true → R a) (hb : ¬ p.isSequential = true → A → R b) :
    R (if p.isSequential then a else b) := by
  split
  · exact ha ‹_›
  · exact hb ‹_› (h.resolve_left ‹_›)

theorem seq_or_eq {α : Type} {p : Params} {A : Prop} (h : p.isSequential = true ∨ A) {a b c : α}
    (ha : a = c) (hb : A → b = c) : (if p.isSequential then a else b) = c :=
  seq_or h (· = c) (fun _ => ha) fun _ => hb

theorem find_filter_and (p q : Val → Bool) (l : List Val) :
    (l.filter p).find? q = l.find? (fun y => p y && q y) := by
  simp only [List.find?_filter, Bool.and_eq_decide]

/-- the three kernel families (`map_fil_*`, `filtermap_fil_*`, `flatmap_fil_*`) with the closures a
    type hands them -/
inductive Shape
  | mf (m : Val → Val) (f : Val → Bool)
  | fmf (fm : Val → Option Val) (f : Val → Bool)
  | flf (g : Val → List Val) (f : Val → Bool)

def Par.shape : Par → Shape
  | .empty _ _ => .mf (pv Par.mapSelf) (pv Par.noFilter)
  | .map _ _ m => .mf (pv m) (pv Par.noFilter)
  | .fil _ _ f => .mf (pv Par.mapSelf) (pv f)
  | .mapFil _ _ m f => .mf (pv m) (pv f)
  | .filterMap _ _ fm => .fmf (pv fm) (pv Par.noFilter)
  | .filterMapFil _ _ fm f => .fmf (pv fm) (pv f)
  | .flatMap _ _ g => .flf (pvs g) (pv Par.noFilter)
  | .flatMapFil _ _ g f => .flf (pvs g) (pv f)

namespace Shape

def surv : Shape → Val → List Val
  | mf m f, x => [m x].filter f
  | fmf fm f, x => (fm x).toList.filter f
  | flf g f, x => (g x).filter f

variable (p : Params) (s : Src) (ex : Exec)

def cnt : Shape → Nat
  | mf m f => mapFilCnt p s m f ex
  | fmf fm f => filtermapFilCnt p s fm f ex
  | flf g f => flatmapFilCnt p s g f ex

def red (op : Val → Val → Val) : Shape → Option Val
  | mf m f => mapFilRed p s m f op ex
  | fmf fm f => filtermapFilRed p s fm f op ex
  | flf g f => flatmapFilRed p s g f op ex

def into (pre : List Val) : Shape → List Val
  | mf m f => mapFilterInto pre p s m f ex
  | fmf fm f => filtermapFilterInto pre p s fm f ex
  | flf g f => flatmapFilterInto pre p s g f ex

def colX : Shape → List Val
  | mf m f => appendFragments (ex.runMap (mapFilColXTask m f))
  | fmf fm f => appendFragments (ex.runMap (filtermapFilColXTask fm f))
  | flf g f => appendFragments (ex.runMap (flatmapFilColXTask g f))

/-- `F f` is the predicate the find kernels are run with (`f` the type's filter): `fun y => f y && q y`
    for `find q`, `f` itself for `first`.  The flat-map kernel reports no index: its `none` is a
    dummy, which is why the lemmas on `findIdx` assume `hsh : ∀ g f, sh ≠ flf g f`. -/
def findIdx (F : (Val → Bool) → Val → Bool) : Shape → Option (Nat × Val)
  | mf m f => mapFilFind p s m (F f) ex
  | fmf fm f => filtermapFilFind p s fm (F f) ex
  | flf _ _ => none

def find (F : (Val → Bool) → Val → Bool) : Shape → Option Val
  | flf g f => flatmapFilFind p s g (F f) ex
  | sh => (sh.findIdx p s ex F).map (·.2)

variable {p s ex}

theorem cnt_spec (sh : Shape) (h : p.isSequential = true ∨ ex.Accepts s.items) :
    sh.cnt p s ex = (s.items.flatMap sh.surv).length := by
  cases sh with
  | mf m f =>
    exact seq_or_eq h (congrArg List.length (map_filter_eq_flatMap m f s.items))
      fun h => mapFilCntTask_eq m f ▸ flatmapFilCnt_correct _ f h
  | fmf fm f =>
    exact seq_or_eq h (congrArg List.length (fm_filter_eq_flatMap fm f s.items))
      fun h => filtermapFilCntTask_eq fm f ▸ flatmapFilCnt_correct _ f h
  | flf g f =>
    exact seq_or_eq h (congrArg List.length List.filter_flatMap) (flatmapFilCnt_correct g f)

theorem into_spec (sh : Shape) (pre : List Val) (h : p.isSequential = true ∨ ex.Accepts s.items) :
    sh.into p s ex pre = pre ++ s.items.flatMap sh.surv := by
  cases sh with
  | mf m f =>
    exact seq_or_eq h (congrArg (pre ++ ·) (map_filter_eq_flatMap m f s.items))
      (mapFilCol_correct m f pre)
  | fmf fm f =>
    exact seq_or_eq h (congrArg (pre ++ ·) (fm_filter_eq_flatMap fm f s.items))
      fun h => filtermapFilColTask_eq fm f ▸ flatmapFilCol_correct _ f pre h
  | flf g f =>
    exact seq_or_eq h (congrArg (pre ++ ·) List.filter_flatMap) (flatmapFilCol_correct g f pre)

theorem colX_spec (sh : Shape) (h : ex.Accepts s.items) :
    (sh.colX ex).Perm (s.items.flatMap sh.surv) := by
  cases sh with
  | mf m f => rw [colX, mapFilColXTask_eq]; exact flatmapFilColX_perm _ f h
  | fmf fm f => rw [colX, filtermapFilColXTask_eq]; exact flatmapFilColX_perm _ f h
  | flf g f => exact flatmapFilColX_perm g f h

/-- `collect_x` of the filter types: in sequential mode the ordered collect, otherwise the
    `*_col_x` kernel; the left side is what `Par.core` computes for them -/
theorem collectX_spec (sh : Shape) (h : p.isSequential = true ∨ ex.Accepts s.items) :
    ∃ v, (if p.isSequential then Outcome.bag (sh.into p s ex []) else .bag (sh.colX ex)) = .bag v ∧
      v.Perm (s.items.flatMap sh.surv) ∧ (p.isSequential = true → v = s.items.flatMap sh.surv) :=
  seq_or h
    (fun o => ∃ v, o = Outcome.bag v ∧ v.Perm (s.items.flatMap sh.surv) ∧
      (p.isSequential = true → v = s.items.flatMap sh.surv))
    (fun hs => ⟨_, rfl, .of_eq (sh.into_spec [] (Or.inl hs)), fun _ => sh.into_spec [] (Or.inl hs)⟩)
    fun hs ha => ⟨_, rfl, sh.colX_spec ha, fun hs' => absurd hs' hs⟩

/-- all reductions at once: `R` is equality with the left fold for `reduce`, `LeastOf le` for the
    selections -/
theorem red_spec (sh : Shape) {op : Val → Val → Val} {R : List Val → Option Val → Prop}
    (hseq : ∀ S, R S (reduceList op S))
    (h : p.isSequential = true ∨ RedInv op R ∧ ex.Accepts s.items) :
    R (s.items.flatMap sh.surv) (sh.red p s ex op) := by
  cases sh with
  | mf m f =>
    exact seq_or h (R _) (fun _ => map_filter_eq_flatMap .. ▸ hseq _)
      fun _ h => mapFilRedTask_eq m f op ▸ flatmapFilRed_inv h.1 hseq h.2 _ f
  | fmf fm f =>
    exact seq_or h (R _) (fun _ => fm_filter_eq_flatMap .. ▸ hseq _)
      fun _ h => filtermapFilRedTask_eq fm f op ▸ flatmapFilRed_inv h.1 hseq h.2 _ f
  | flf g f =>
    exact seq_or h (R _) (fun _ => List.filter_flatMap ▸ hseq _)
      fun _ h => flatmapFilRed_inv h.1 hseq h.2 g f

/- One proof for `find q` and `first`: the kernels run with `F f`, which is `fun y => f y && q y`
   for `find q` (`hF` by `rfl`) and `f` itself for `first` (`F = id`, `q = fun _ => true`, `hF` by
   `and_true_fun`). -/
section
variable (sh : Shape) {q : Val → Bool} {F : (Val → Bool) → Val → Bool}
  (hF : ∀ f, F f = fun y => f y && q y)
  (h : p.isSequential = true ∨ ex.AcceptsFind s.items fun x => (sh.surv x).any q)
include hF h

theorem findIdx_spec (hsh : ∀ g f, sh ≠ flf g f) :
    sh.findIdx p s ex F
      = (s.items.zipIdx 0).findSome? fun a => ((sh.surv a.1).find? q).map fun v => (a.2, v) := by
  cases sh with
  | mf m f =>
    -- the type's filter `f` goes from the survivors into the predicate: `q` on `[m x].filter f` is
    -- `F f` on `[m x]`, which is how the kernel is run
    simp only [surv, find_filter_and, List.any_filter, ← hF] at h ⊢
    exact seq_or_eq h (seqMapFilFind_eq ..) fun h => mapFilFindTask_eq m _ ▸ flatmapFilFind_correct _ _ h
  | fmf fm f =>
    simp only [surv, find_filter_and, List.any_filter, ← hF] at h ⊢
    exact seq_or_eq h (seqFiltermapFilFind_eq ..)
      fun h => filtermapFilFindTask_eq fm _ ▸ flatmapFilFind_correct _ _ h
  | flf g f => exact absurd rfl (hsh g f)

theorem find_spec : sh.find p s ex F = (s.items.flatMap sh.surv).find? q := by
  rw [← findSome_zipIdx_value sh.surv q s.items 0]
  cases sh with
  | mf | fmf => exact congrArg (Option.map (·.2)) (findIdx_spec _ hF h fun _ _ => Shape.noConfusion)
  | flf g f =>
    simp only [surv, find_filter_and, List.any_filter, ← hF] at h ⊢
    exact seq_or_eq h (findSome_zipIdx_value g _ s.items 0).symm
      fun h => congrArg (Option.map (·.2)) (flatmapFilFind_correct g _ h)

end

end Shape

theorem Par.elem_vals (P : Par) (x : Val) : (P.elem x).vals = P.shape.surv x := by
  cases P with
  | empty p s => rfl
  | map p s m => rfl
  | fil p s f => exact Par.elem_vals_fil p s f x
  | mapFil p s m f => exact Par.elem_vals_mapFil p s m f x
  | filterMap p s fm => exact (Par.elem_vals_filterMap p s fm x).trans (List.filter_eq_self.2 fun _ _ => rfl).symm
  | filterMapFil p s fm f => exact Par.elem_vals_filterMapFil p s fm f x
  | flatMap p s g => exact (List.filter_eq_self.2 fun _ _ => rfl).symm
  | flatMapFil p s g f => exact Par.elem_vals_flatMapFil p s g f x

theorem Par.stream_vals_shape (P : Par) : P.stream.vals = P.src.items.flatMap P.shape.surv := by
  rw [Par.stream_vals]
  exact congrArg (List.flatMap · _) (funext P.elem_vals)

def Par.hit (P : Par) (q : Val → Bool) : Val → Bool := fun x => (P.elem x).vals.any q

theorem Par.hit_shape (P : Par) (q : Val → Bool) : P.hit q = fun x => (P.shape.surv x).any q :=
  funext fun x => congrArg (·.any q) (P.elem_vals x)

/-- the hypothesis on the execution context for a full-visit terminal; in sequential mode the
    context is ignored -/
def Par.Ok (P : Par) (ex : Exec) : Prop := P.params.isSequential = true ∨ ex.Accepts P.src.items

def Par.OkFind (P : Par) (ex : Exec) (q : Val → Bool) : Prop :=
  P.params.isSequential = true ∨ ex.AcceptsFind P.src.items (P.hit q)

theorem Kern.mapCol_eq {p : Params} {s : Src} {ex : Exec} (pre : List Val) (m : Val → Val)
    (h : p.isSequential = true ∨ ex.Accepts s.items) :
    mapCol p s m pre ex = some (pre ++ s.items.map m) :=
  seq_or_eq h rfl (mapCol_correct m pre)

theorem Kern.mapInto_eq {p : Params} {s : Src} {ex : Exec} (t : Target) (pre : List Val)
    (m : Val → Val) (h : p.isSequential = true ∨ ex.Accepts s.items) :
    mapInto t pre p s m ex = some (pre ++ s.items.map m) := by
  have known := Kern.mapCol_eq pre m h
  -- unknown length: through a fresh bag, then `extend`
  have fresh : (mapCol p s m [] ex).map (pre ++ ·) = some (pre ++ s.items.map m) :=
    congrArg (Option.map (pre ++ ·)) (Kern.mapCol_eq [] m h)
  cases t with
  | splitVec => exact known
  | vec | fixedVec =>
    unfold mapInto
    cases s.knownLen
    · exact fresh
    · exact known

/-- collect, collect_vec, collect_into for all three targets, known and unknown length -/
theorem Par.core_collectInto (P : Par) (ex : Exec) (h : P.Ok ex) (t : Target) (pre : List Val) :
    P.core ex (.collectInto t pre) = .vals (pre ++ P.stream.vals) := by
  have key := P.shape.into_spec pre h
  rw [← P.stream_vals_shape] at key
  cases P with
  | empty p s => exact congrArg (fun l => Outcome.vals (pre ++ l)) (Par.stream_vals_empty p s).symm
  | map p s m =>
    show (match mapInto t pre p s (pv m) ex with | some v => Outcome.vals v | none => .panic) = _
    rw [Kern.mapInto_eq (p := p) (s := s) t pre (pv m) h, Par.stream_vals_map]
  | _ => exact congrArg Outcome.vals key

theorem Par.core_count (P : Par) (ex : Exec) (h : P.Ok ex) :
    P.core ex .count = .num P.stream.vals.length := by
  rw [P.stream_vals_shape, ← P.shape.cnt_spec h]
  cases P <;> rfl

theorem Par.core_reduce_gen (P : Par) (ex : Exec) (op : Val → Val → Val)
    (R : List Val → Option Val → Prop) (hseq : ∀ S, R S (reduceList op S))
    (h : P.params.isSequential = true ∨ RedInv op R ∧ ex.Accepts P.src.items) :
    ∃ r, P.core ex (.reduce op) = .opt r ∧ R P.stream.vals r := by
  refine ⟨P.shape.red P.params P.src ex op, ?_, P.stream_vals_shape ▸ P.shape.red_spec hseq h⟩
  cases P <;> rfl

theorem Par.core_reduce (P : Par) (ex : Exec) (op : Val → Val → Val)
    (h : P.params.isSequential = true ∨
      (∀ a b c, op (op a b) c = op a (op b c)) ∧ (∀ a b, op a b = op b a) ∧ ex.Accepts P.src.items) :
    P.core ex (.reduce op) = .opt (reduceList op P.stream.vals) := by
  obtain ⟨r, h1, h2⟩ := Par.core_reduce_gen P ex op (fun S r => r = reduceList op S)
    (fun _ => rfl) (h.imp_right fun h => ⟨redInv_ac h.1 h.2.1, h.2.2⟩)
  rw [h1, h2]

/-- the selections (`min_by_key` & co) -/
theorem Par.core_reduce_select (P : Par) (ex : Exec) (h : P.Ok ex) {le : Val → Val → Prop}
    {op : Val → Val → Val} (hop : IsSel le op) :
    ∃ r, P.core ex (.reduce op) = .opt r ∧ LeastOf le P.stream.vals r :=
  Par.core_reduce_gen P ex op (LeastOf le) (reduceList_select hop)
    (h.imp_right fun h => ⟨redInv_sel hop, h⟩)

theorem Par.core_collectX (P : Par) (ex : Exec) (h : P.Ok ex) :
    ∃ v, P.core ex .collectX = .bag v ∧ v.Perm P.stream.vals ∧
      (P.params.isSequential = true → v = P.stream.vals) := by
  have key := P.shape.collectX_spec (s := P.src) (ex := ex) h
  rw [← P.stream_vals_shape] at key
  cases P with
  | empty p s =>
    exact ⟨_, rfl, .of_eq (Par.stream_vals_empty p s).symm, fun _ => (Par.stream_vals_empty p s).symm⟩
  | _ => exact key

theorem Par.core_collectX_seq (P : Par) (ex : Exec) (h : P.params.isSequential = true) :
    P.core ex .collectX = .bag P.stream.vals := by
  obtain ⟨v, h1, _, h3⟩ := P.core_collectX ex (Or.inl h)
  rw [h1, h3 h]

section
variable (P : Par) (ex : Exec) {q : Val → Bool} {F : (Val → Bool) → Val → Bool}
  (hF : ∀ f, F f = fun y => f y && q y) (h : P.OkFind ex q)
include hF h

theorem Par.shape_find : P.shape.find P.params P.src ex F = P.stream.vals.find? q := by
  unfold Par.OkFind at h
  rw [P.hit_shape] at h
  rw [P.stream_vals_shape]
  exact P.shape.find_spec hF h

theorem Par.shape_findIdx (hsh : ∀ g f, P.shape ≠ .flf g f) :
    P.shape.findIdx P.params P.src ex F = specIdx P q := by
  unfold Par.OkFind at h
  rw [P.hit_shape] at h
  unfold specIdx
  simp only [P.elem_vals]
  exact P.shape.findIdx_spec hF h hsh

end

theorem Par.core_find (P : Par) (ex : Exec) (q : Val → Bool) (h : P.OkFind ex q) :
    P.core ex (.find q) = .opt (P.stream.vals.find? q) := by
  rw [← P.shape_find ex (fun _ => rfl) h]
  cases P <;> rfl

theorem and_true_fun (f : Val → Bool) : f = fun y => f y && true :=
  funext fun _ => (Bool.and_true _).symm

theorem Par.core_first (P : Par) (ex : Exec) (h : P.OkFind ex (fun _ => true)) :
    P.core ex .first = .opt P.stream.vals.head? := by
  have e : P.stream.vals.head? = P.stream.vals.find? fun _ => true := by
    cases P.stream.vals <;> rfl
  rw [e, ← P.shape_find (F := id) ex and_true_fun h]
  cases P <;> rfl

/-- which types have the inherent index terminals -/
def Par.hasIdx : Par → Bool
  | .empty .. | .map .. | .fil .. | .mapFil .. | .filterMapFil .. => true
  | _ => false

theorem Par.core_findIdx_supported (P : Par) (ex : Exec) (q : Val → Bool) (hs : P.hasIdx = true)
    (h : P.OkFind ex q) : P.core ex (.findIdx q) = .optIdx (specIdx P q) := by
  have key := P.shape_findIdx ex (fun _ => rfl) h
  cases P with
  | filterMap | flatMap | flatMapFil => cases hs
  | _ => exact congrArg Outcome.optIdx (key fun _ _ => Shape.noConfusion)

theorem Par.core_firstIdx (P : Par) (ex : Exec) (h : P.OkFind ex (fun _ => true)) :
    P.core ex .firstIdx = .unsupported ∨ P.core ex .firstIdx = .optIdx (specIdx P (fun _ => true)) := by
  have key := P.shape_findIdx (F := id) ex and_true_fun h
  cases P with
  | filterMap | flatMap | flatMapFil => exact Or.inl rfl
  | _ => exact Or.inr (congrArg Outcome.optIdx (key fun _ _ => Shape.noConfusion))

/-- so the value a `*_with_index` terminal reports with its index is the sequential `find` result -/
theorem specIdx_value (P : Par) (q : Val → Bool) :
    (specIdx P q).map (·.2) = P.stream.vals.find? q := by
  unfold specIdx
  rw [Par.stream_vals]
  exact findSome_zipIdx_value (fun x => (P.elem x).vals) q _ 0

/-- under which hypothesis terminal `t` returns exactly `specTerm`: `Ok`, resp. `OkFind` with the
    terminal's predicate; `reduce` and `fold` also need an associative and commutative operator
    unless sequential; the selections and `collect_x` return *an* extremal element resp. a
    permutation, hence `specTerm` in sequential mode only; `for_each` and the index terminals are
    not functions of the values alone (`False`). -/
def Par.Exact (P : Par) (ex : Exec) : Terminal → Prop
  | .reduce op | .fold op _ => P.params.isSequential = true ∨
      (∀ a b c, op (op a b) c = op a (op b c)) ∧ (∀ a b, op a b = op b a) ∧ ex.Accepts P.src.items
  | .minBy | .maxBy | .minByKey _ | .maxByKey _ | .collectX => P.params.isSequential = true
  | .find q | .any q => P.OkFind ex q
  | .all q => P.OkFind ex fun x => !q x
  | .first => P.OkFind ex fun _ => true
  | .forEach | .findIdx _ | .firstIdx => False
  | _ => P.Ok ex

theorem addMod_assoc (n a b c : Nat) : ((a + b) % n + c) % n = (a + (b + c) % n) % n := by
  rw [Nat.mod_add_mod, Nat.add_mod_mod, Nat.add_assoc]

theorem Par.term_spec (P : Par) (ex : Exec) (t : Terminal) (h : P.Exact ex t) :
    P.term ex t = specTerm P.stream.vals t := by
  cases t with
  | collectVec => exact P.core_collectInto ex h .vec []
  | collect => exact P.core_collectInto ex h .splitVec []
  | collectInto tg pre => exact P.core_collectInto ex h tg pre
  | collectX => exact P.core_collectX_seq ex h
  | count => exact P.core_count ex h
  | reduce op => exact P.core_reduce ex op h
  | fold op identity =>
    -- selects the branch of `Par.term` by reduction; `simp only [Par.term, …]` is slow to check here
    dsimp only [Par.term]
    rw [P.core_reduce ex op h]
    rfl
  | sum =>
    dsimp only [Par.term]
    rw [P.core_reduce ex (fun x y => (x + y) % 2 ^ 64)
      (h.imp_right fun h => ⟨addMod_assoc _, fun a b => by rw [Nat.add_comm], h⟩)]
    rfl
  | min => exact P.core_reduce ex _ (h.imp_right fun h => ⟨Nat.min_assoc, Nat.min_comm, h⟩)
  | max => exact P.core_reduce ex _ (h.imp_right fun h => ⟨Nat.max_assoc, Nat.max_comm, h⟩)
  | minBy | maxBy | minByKey | maxByKey => exact P.core_reduce ex _ (Or.inl h)
  | find q => exact P.core_find ex q h
  | first => exact P.core_first ex h
  | any q =>
    dsimp only [Par.term]
    rw [P.core_find ex q h]
    exact congrArg Outcome.bool List.isSome_find?
  | all q =>
    dsimp only [Par.term]
    rw [P.core_find ex _ h]
    refine congrArg Outcome.bool ?_
    rw [List.all_eq_not_any_not, ← List.isSome_find?]
    cases P.stream.vals.find? fun x => !q x <;> rfl
  | forEach | findIdx | firstIdx => cases h

theorem build_term_spec (s : Src) (ops : List Op) (ex : Exec) (t : Terminal)
    (h : (Par.build s ops).1.Exact ex t) :
    (Par.build s ops).1.term ex t = specTerm (seqVals s.items ops) t := by
  rw [Par.term_spec _ ex t h, build_stream_vals]

end OrxPar
