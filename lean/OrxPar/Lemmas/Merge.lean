/- The k-way merge permutes the union of the vectors; if they are strictly key-sorted and so is
   their union (no key twice), it is that sorted union. -/
import OrxPar.Model.Accept
namespace OrxPar
open K

theorem Key.le_iff (a b : Key) :
    Key.le a b = true ↔ (a.1 < b.1 ∨ (a.1 = b.1 ∧ a.2 ≤ b.2)) := by
  simp [Key.le]

theorem Key.le_refl (a : Key) : Key.le a a = true :=
  (Key.le_iff a a).2 (.inr ⟨rfl, Nat.le_refl _⟩)

theorem Key.le_trans {a b c : Key} (h1 : Key.le a b = true) (h2 : Key.le b c = true) :
    Key.le a c = true := by
  rw [Key.le_iff] at *
  rcases h1 with h1 | ⟨e1, h1⟩ <;> rcases h2 with h2 | ⟨e2, h2⟩
  · exact .inl (Nat.lt_trans h1 h2)
  · exact .inl (e2 ▸ h1)
  · exact .inl (e1 ▸ h2)
  · exact .inr ⟨e1.trans e2, Nat.le_trans h1 h2⟩

theorem Key.lt_iff (a b : Key) :
    Key.lt a b = true ↔ (a.1 < b.1 ∨ (a.1 = b.1 ∧ a.2 < b.2)) := by
  simp [Key.lt]

theorem Key.lt_iff_not_le (a b : Key) : Key.lt a b = true ↔ ¬ Key.le b a = true := by
  rw [Key.lt_iff, Key.le_iff]
  constructor
  · rintro (h | ⟨e, h⟩) (h' | ⟨e', h'⟩)
    · exact Nat.lt_asymm h h'
    · exact Nat.lt_irrefl _ (e' ▸ h)
    · exact Nat.lt_irrefl _ (e ▸ h')
    · exact Nat.not_le_of_lt h h'
  · intro h
    rcases Nat.lt_trichotomy a.1 b.1 with h1 | h1 | h1
    · exact .inl h1
    · exact .inr ⟨h1, Nat.lt_of_not_le fun h2 => h (.inr ⟨h1.symm, h2⟩)⟩
    · exact absurd (.inl h1) h

theorem Key.le_of_lt {a b : Key} (h : Key.lt a b = true) : Key.le a b = true :=
  (Key.le_iff a b).2 (((Key.lt_iff a b).1 h).imp_right fun ⟨e, h⟩ => ⟨e, Nat.le_of_lt h⟩)

/-- `Key.lt` on the keys, as a proposition (`Key.lt_iff`) -/
def KLt (a b : Key × Val) : Prop := a.1.1 < b.1.1 ∨ (a.1.1 = b.1.1 ∧ a.1.2 < b.1.2)

theorem KLt.lt {a b : Key × Val} (h : KLt a b) : Key.lt a.1 b.1 = true := (Key.lt_iff _ _).2 h

theorem KLt.le {a b : Key × Val} (h : KLt a b) : Key.le a.1 b.1 = true := Key.le_of_lt h.lt

theorem KLt.not_le {a b : Key × Val} (h : KLt a b) : ¬ Key.le b.1 a.1 = true :=
  (Key.lt_iff_not_le _ _).1 h.lt

/-- strictly key-sorted: what a worker's vector is, and what the merge needs -/
def Srt (v : List (Key × Val)) : Prop := v.Pairwise KLt

theorem popMin_none {vs : List (List (Key × Val))} (h : popMin vs = none) : vs.flatten = [] := by
  fun_induction popMin vs with
  | case1 => rfl
  | case2 vs hn ih => exact ih hn
  | case3 | case4 | case5 | case6 => cases h

theorem popMin_split {vs : List (List (Key × Val))} {x vs'} (h : popMin vs = some (x, vs')) :
    ∃ A tl B, vs = A ++ (x :: tl) :: B ∧ vs' = A ++ tl :: B ∧
      (∀ y t, (y :: t) ∈ A → Key.lt x.1 y.1 = true) ∧
      (∀ y t, (y :: t) ∈ B → Key.le x.1 y.1 = true) := by
  fun_induction popMin vs generalizing x vs' with
  | case1 => cases h   -- no vector
  | case2 vs hn ih => cases h   -- an empty vector first, nothing in the others
  | case3 vs y vs1 hp ih =>   -- an empty vector first: the minimum of the others
    cases h
    obtain ⟨A, tl, B, rfl, rfl, hA, hB⟩ := ih hp
    exact ⟨[] :: A, tl, B, rfl, rfl, fun y t hy => hA y t ((List.mem_cons.1 hy).resolve_left nofun), hB⟩
  | case4 x0 v vs hn =>   -- head `x0` first, nothing in the others: `x0`
    cases h
    refine ⟨[], v, vs, rfl, rfl, (fun _ _ hy => nomatch hy), fun y t hy => ?_⟩
    cases List.flatten_eq_nil_iff.1 (popMin_none hn) _ hy
  | case5 x0 v vs y vs1 hp hle ih =>   -- `x0` is `le` the minimum `y` of the others: `x0`
    cases h
    obtain ⟨A, tl, B, rfl, rfl, hA, hB⟩ := ih hp
    refine ⟨[], v, _, rfl, rfl, (fun _ _ hy => nomatch hy), fun z t hz => ?_⟩
    rcases List.mem_append.1 hz with hz | hz
    · exact Key.le_trans hle (Key.le_of_lt (hA z t hz))
    · rcases List.mem_cons.1 hz with e | hz
      · cases e; exact hle
      · exact Key.le_trans hle (hB z t hz)
  | case6 x0 v vs y vs1 hp hlt ih =>   -- `x0` is not `le` the minimum `y` of the others: `y`
    cases h
    obtain ⟨A, tl, B, rfl, rfl, hA, hB⟩ := ih hp
    refine ⟨(x0 :: v) :: A, tl, B, rfl, rfl, fun z t hz => ?_, hB⟩
    rcases List.mem_cons.1 hz with e | hz
    · cases e; exact (Key.lt_iff_not_le _ _).2 hlt
    · exact hA z t hz

theorem popMin_perm {vs : List (List (Key × Val))} {x vs'} (h : popMin vs = some (x, vs')) :
    (x :: vs'.flatten).Perm vs.flatten := by
  obtain ⟨A, tl, B, rfl, rfl, _, _⟩ := popMin_split h
  simpa using List.perm_middle.symm

theorem popMin_sorted {vs : List (List (Key × Val))} {x vs'} (h : popMin vs = some (x, vs'))
    (hs : ∀ v ∈ vs, Srt v) : ∀ v ∈ vs', Srt v := by
  obtain ⟨A, tl, B, rfl, rfl, _, _⟩ := popMin_split h
  intro v hv
  rcases List.mem_append.1 hv with hv | hv
  · exact hs v (List.mem_append_left _ hv)
  · rcases List.mem_cons.1 hv with rfl | hv
    · exact (List.pairwise_cons.1 (hs _ (List.mem_append_right _ List.mem_cons_self))).2
    · exact hs v (List.mem_append_right _ (List.mem_cons_of_mem _ hv))

theorem popMin_min {vs : List (List (Key × Val))} {x vs'} (h : popMin vs = some (x, vs'))
    (hs : ∀ v ∈ vs, Srt v) : ∀ y ∈ vs'.flatten, Key.le x.1 y.1 = true := by
  intro y hy
  -- `y` sits in a vector of `vs`, above that vector's head, which is above `x`
  obtain ⟨v, hv, hyv⟩ := List.mem_flatten.1 ((popMin_perm h).subset (List.mem_cons_of_mem x hy))
  obtain ⟨A, tl, B, rfl, rfl, hA, hB⟩ := popMin_split h
  cases v with
  | nil => cases hyv
  | cons z t =>
    have hz : Key.le x.1 z.1 = true := by
      rcases List.mem_append.1 hv with hv | hv
      · exact Key.le_of_lt (hA z t hv)
      · rcases List.mem_cons.1 hv with e | hv
        · cases e; exact Key.le_refl _
        · exact hB z t hv
    rcases List.mem_cons.1 hyv with rfl | hyv
    · exact hz
    · exact Key.le_trans hz (List.rel_of_pairwise_cons (hs _ hv) hyv).le

theorem kmerge_perm (n : Nat) (vs : List (List (Key × Val))) (hn : vs.flatten.length ≤ n) :
    (kmergeFuel n vs).Perm vs.flatten := by
  fun_induction kmergeFuel n vs with
  | case1 => rw [List.length_eq_zero_iff.1 (Nat.le_zero.1 hn)]
  | case2 n vs hnone => rw [popMin_none hnone]
  | case3 n vs x vs' hsome ih =>
    have hp := popMin_perm hsome
    refine ((ih ?_).cons x).trans hp
    exact Nat.le_of_succ_le_succ (Nat.le_trans (Nat.le_of_eq hp.length_eq) hn)

theorem heapSortInto_perm (pre : List Val) (vs : List (List (Key × Val))) :
    (heapSortInto pre vs).Perm (pre ++ vs.flatten.map (·.2)) :=
  ((kmerge_perm _ vs (Nat.le_of_eq List.length_flatten)).map _).append_left pre

/-- the merge of strictly sorted vectors whose union is the strictly sorted `all` is `all`: what
    `popMin` delivers is below everything left, so it is the head of `all` -/
theorem kmerge_eq (n : Nat) (vs : List (List (Key × Val))) {all : List (Key × Val)}
    (hs : ∀ v ∈ vs, Srt v) (hp : vs.flatten.Perm all) (hall : Srt all) (hn : all.length ≤ n) :
    kmergeFuel n vs = all := by
  fun_induction kmergeFuel n vs generalizing all with
  | case1 => exact (List.length_eq_zero_iff.1 (Nat.le_zero.1 hn)).symm
  | case2 n vs hnone => exact (popMin_none hnone ▸ hp).nil_eq
  | case3 n vs x vs' hsome ih =>
    have hx := (popMin_perm hsome).trans hp
    cases all with
    | nil => cases hx.length_eq
    | cons a all' =>
      have e : x = a := by
        rcases List.mem_cons.1 (hx.mem_iff.1 List.mem_cons_self) with e | hxa
        · exact e
        · rcases List.mem_cons.1 (hx.mem_iff.2 List.mem_cons_self) with e | ha
          · exact e.symm
          · exact absurd (popMin_min hsome hs a ha) (List.rel_of_pairwise_cons hall hxa).not_le
      subst e
      exact congrArg (x :: ·) (ih (popMin_sorted hsome hs) hx.cons_inv (List.pairwise_cons.1 hall).2
        (Nat.le_of_succ_le_succ hn))

theorem heapSortInto_eq (pre : List Val) (vs : List (List (Key × Val))) (all : List (Key × Val))
    (hs : ∀ v ∈ vs, Srt v) (hp : vs.flatten.Perm all) (hall : Srt all) :
    heapSortInto pre vs = pre ++ all.map (·.2) := by
  unfold heapSortInto
  rw [kmerge_eq _ vs hs hp hall (Nat.le_of_eq (List.length_flatten ▸ hp.length_eq.symm))]

end OrxPar
