/- Every chain of transformations, through every (type, transformation) site, denotes the std chain:
   the same values, and the same events as multisets. -/
import OrxPar.Lemmas.Stream
namespace OrxPar

theorem Par.noFilter_apply (v : Val) : Par.noFilter v = ⟨true, []⟩ := rfl

theorem Prod.filterW_noFilter_eq (s : Prod) : s.filterW Par.noFilter = s := by
  induction s with
  | nil => rfl
  | emit e v r ih => simp [Prod.filterW, Par.noFilter_apply, ih]
  | skip e r ih => exact congrArg (Prod.skip e) ih

theorem Par.intoOption_eq (o : Option Val) : Par.intoOption o = o := by
  cases o <;> rfl

/-! `compAnd` is needed on every stream (`ParFlatMapFilter`); the other composed closures only ever
see the stream of one source element. -/

theorem Prod.filterW_compAnd (f g : Val → W Bool) (s : Prod) :
    s.filterW (Par.compAnd f g) = (s.filterW f).filterW g := by
  induction s with
  | nil => rfl
  | emit e v r ih =>
    cases hf : (f v).val <;> cases hg : (g v).val <;>
      simp [Prod.filterW, Par.compAnd, ih, hf, hg, List.append_assoc]
  | skip e r ih => exact congrArg (Prod.skip e) ih

namespace Par

theorem callFlat_fuse (k : Nat) (g : Val → List Val) (x : Val) :
    callFlat k g x = (Prod.single x).flatMapW (callFlat k g) :=
  ((Prod.append_nil _).trans (Prod.prefixLog_ofCall [] [⟨k, x⟩] (g x))).symm

theorem compMapFlat_fuse (m : Val → W Val) (k : Nat) (g : Val → List Val) (x : Val) :
    compMapFlat m k g x = ((Prod.single x).mapW m).flatMapW (callFlat k g) :=
  ((Prod.append_nil _).trans (Prod.prefixLog_ofCall _ [⟨k, (m x).val⟩] (g (m x).val))).symm

theorem filThenFilterMap_fuse (f : Val → W Bool) (h : Val → W (Option Val)) (x : Val) :
    (Prod.single x).filterMapW (filThenFilterMap f h)
      = ((Prod.single x).filterW f).filterMapW h := by
  simp only [Prod.single, Prod.filterMapW, Prod.filterW, filThenFilterMap, intoOption_eq]
  cases (f x).val <;> rfl

theorem mapFilThenFilterMap_fuse (m : Val → W Val) (f : Val → W Bool)
    (h : Val → W (Option Val)) (x : Val) :
    (Prod.single x).filterMapW (mapFilThenFilterMap m f h)
      = (((Prod.single x).mapW m).filterW f).filterMapW h := by
  dsimp only [Prod.single, Prod.filterMapW, Prod.mapW, Prod.filterW, mapFilThenFilterMap]
  rw [intoOption_eq]
  cases (f (m x).val).val <;> rfl

theorem fmThenMap_fuse (fm : Val → W (Option Val)) (g : Val → W Val) (x : Val) :
    (Prod.single x).filterMapW (fmThenMap fm g) = ((Prod.single x).filterMapW fm).mapW g := by
  dsimp only [Prod.single, Prod.filterMapW, fmThenMap]
  cases (fm x).val <;> rfl

theorem fmThenFilterMap_fuse (fm h : Val → W (Option Val)) (x : Val) :
    (Prod.single x).filterMapW (fmThenFilterMap fm h)
      = ((Prod.single x).filterMapW fm).filterMapW h := by
  simp only [Prod.single, Prod.filterMapW, fmThenFilterMap, intoOption_eq]
  cases (fm x).val <;> rfl

theorem fmFilThenFilterMap_fuse (fm : Val → W (Option Val)) (f : Val → W Bool)
    (h : Val → W (Option Val)) (x : Val) :
    (Prod.single x).filterMapW (fmFilThenFilterMap fm f h)
      = (((Prod.single x).filterMapW fm).filterW f).filterMapW h := by
  simp only [Prod.single, Prod.filterMapW, fmFilThenFilterMap, intoOption_eq]
  cases (fm x).val with
  | none => rfl
  | some v => dsimp only [Prod.filterW]; cases (f v).val <;> rfl

/-! `… then map` is `… then filter_map` of `someW`, by computation. -/

theorem filThenMap_fuse (f : Val → W Bool) (m : Val → W Val) (x : Val) :
    (Prod.single x).filterMapW (filThenMap f m) = ((Prod.single x).filterW f).mapW m :=
  (filThenFilterMap_fuse f (someW m) x).trans (Prod.mapW_eq m _).symm

theorem mapFilThenMap_fuse (m : Val → W Val) (f : Val → W Bool) (g : Val → W Val) (x : Val) :
    (Prod.single x).filterMapW (mapFilThenMap m f g)
      = (((Prod.single x).mapW m).filterW f).mapW g :=
  (mapFilThenFilterMap_fuse m f (someW g) x).trans (Prod.mapW_eq g _).symm

theorem fmFilThenMap_fuse (fm : Val → W (Option Val)) (f : Val → W Bool) (g : Val → W Val)
    (x : Val) :
    (Prod.single x).filterMapW (fmFilThenMap fm f g)
      = (((Prod.single x).filterMapW fm).filterW f).mapW g :=
  (fmFilThenFilterMap_fuse fm f (someW g) x).trans (Prod.mapW_eq g _).symm

theorem stream_empty (p s) : (empty p s).stream = Prod.ofList s.items :=
  Prod.bindList_single s.items

theorem stream_flatMapFil (p s fm f) :
    (flatMapFil p s fm f).stream = (flatMap p s fm).stream.filterW f :=
  (Prod.filterW_bindList f s.items fm).symm

theorem applySeq_stream (P Q : Par) (op : Op) (hs : Q.src = P.src)
    (he : ∀ x, Q.elem x = op.applySeq (P.elem x)) : Q.stream = op.applySeq P.stream := by
  simp only [stream, hs, Op.applySeq_bindList]
  exact congrArg _ (funext he)

/-- the type an eager site goes on with, over the freshly collected `ys` -/
theorem fresh_stream {ys : List Val} {known : Bool} {op : Op} {Q : Par}
    (hs : Q.src = ⟨ys, known⟩) (he : ∀ x, Q.elem x = op.applySeq (Prod.single x)) :
    Q.stream = op.applySeq (Prod.ofList ys) :=
  stream_empty {} ⟨ys, known⟩ ▸ applySeq_stream (empty {} ⟨ys, known⟩) Q op hs he

/-- A lazy site runs nothing and leaves the source untouched: it stores the new closure (where no
    lemma is cited) or fuses it with those it holds.  An eager site runs the whole upstream
    pipeline and goes on as `ParEmpty` over its values. -/
theorem applyT_site (P : Par) (op : Op) :
    match P.applyT op, P.isEagerSite op with
    | (Q, e), false => (∀ x, Q.elem x = op.applySeq (P.elem x)) ∧ e = [] ∧ Q.src = P.src
    | (Q, e), true => Q.stream = op.applySeq (Prod.ofList P.stream.vals) ∧ e = P.stream.log ∧
        Q.src.items = P.stream.vals := by
  cases op with
  | numThreads v | chunkSize v => cases P <;> exact ⟨fun _ => rfl, rfl, rfl⟩
  | map k g => cases P with
    | fil p s f => exact ⟨filThenMap_fuse f _, rfl, rfl⟩
    | mapFil p s m f => exact ⟨mapFilThenMap_fuse m f _, rfl, rfl⟩
    | filterMap p s fm => exact ⟨fmThenMap_fuse fm _, rfl, rfl⟩
    | filterMapFil p s fm f => exact ⟨fmFilThenMap_fuse fm f _, rfl, rfl⟩
    | flatMapFil p s fm f => exact ⟨fresh_stream rfl fun _ => rfl, rfl, rfl⟩
    | _ => exact ⟨fun _ => rfl, rfl, rfl⟩
  | filter k q => cases P with
    | fil p s f => exact ⟨fun _ => Prod.filterW_compAnd f _ _, rfl, rfl⟩
    | mapFil p s m f => exact ⟨fun _ => Prod.filterW_compAnd f _ _, rfl, rfl⟩
    | filterMapFil p s fm f => exact ⟨fun _ => Prod.filterW_compAnd f _ _, rfl, rfl⟩
    | flatMapFil p s fm f => exact ⟨fun _ => Prod.filterW_compAnd f _ _, rfl, rfl⟩
    | _ => exact ⟨fun _ => rfl, rfl, rfl⟩
  | flatMap k g => cases P with
    | empty p s => exact ⟨callFlat_fuse k g, rfl, rfl⟩
    | map p s m => exact ⟨compMapFlat_fuse m k g, rfl, rfl⟩
    | flatMap p s fm => exact ⟨fun _ => rfl, rfl, rfl⟩
    | _ => exact ⟨fresh_stream rfl (callFlat_fuse k g), rfl, rfl⟩
  | filterMap k h => cases P with
    | fil p s f => exact ⟨filThenFilterMap_fuse f _, rfl, rfl⟩
    | mapFil p s m f => exact ⟨mapFilThenFilterMap_fuse m f _, rfl, rfl⟩
    | filterMap p s fm => exact ⟨fmThenFilterMap_fuse fm _, rfl, rfl⟩
    | filterMapFil p s fm f => exact ⟨fmFilThenFilterMap_fuse fm f _, rfl, rfl⟩
    | flatMap p s fm =>
      -- `ParFlatMap::filter_map` collects `self.filter(no_filter)`
      have e : (flatMapFil p s fm noFilter).stream = (flatMap p s fm).stream := by
        rw [stream_flatMapFil, Prod.filterW_noFilter_eq]
      rw [← e]
      exact ⟨fresh_stream rfl fun _ => rfl, rfl, rfl⟩
    | flatMapFil p s fm f => exact ⟨fresh_stream rfl fun _ => rfl, rfl, rfl⟩
    | _ => exact ⟨fun _ => rfl, rfl, rfl⟩

theorem applyT_lazy (P : Par) (op : Op) (h : P.isEagerSite op = false) :
    (∀ x, (P.applyT op).1.elem x = op.applySeq (P.elem x)) ∧ (P.applyT op).2 = [] ∧
      (P.applyT op).1.src = P.src := by
  have hs := applyT_site P op
  rwa [h] at hs

theorem applyT_lazy_stream (P : Par) (op : Op) (h : P.isEagerSite op = false) :
    (P.applyT op).1.stream = op.applySeq P.stream :=
  applySeq_stream P _ op (applyT_lazy P op h).2.2 (applyT_lazy P op h).1

theorem applyT_eager (P : Par) (op : Op) (h : P.isEagerSite op = true) :
    (P.applyT op).1.stream = op.applySeq (Prod.ofList P.stream.vals) ∧
      (P.applyT op).2 = P.stream.log ∧ (P.applyT op).1.src.items = P.stream.vals := by
  have hs := applyT_site P op
  rwa [h] at hs

end Par

/-- Lazy or eager, a site goes on with the std adaptor from a stream `T` that has the values of
    `P.stream` and, after the construction effects, its events. -/
theorem Par.applyT_from (P : Par) (op : Op) :
    ∃ T : Prod, (P.applyT op).1.stream = op.applySeq T ∧ T.vals = P.stream.vals ∧
      (P.applyT op).2 ++ T.log = P.stream.log := by
  cases h : P.isEagerSite op with
  | false =>
    exact ⟨P.stream, Par.applyT_lazy_stream P op h, rfl,
      congrArg (· ++ P.stream.log) (Par.applyT_lazy P op h).2.1⟩
  | true =>
    refine ⟨.ofList P.stream.vals, (Par.applyT_eager P op h).1, Prod.vals_ofList _, ?_⟩
    rw [(Par.applyT_eager P op h).2.1, Prod.log_ofList, List.append_nil]

theorem Par.applyT_stream_vals (P : Par) (op : Op) :
    (P.applyT op).1.stream.vals = op.applyVals P.stream.vals := by
  obtain ⟨T, hT, hv, _⟩ := P.applyT_from op
  rw [hT, Op.applySeq_vals, hv]

/-- `for_each f` is `map(f).count()`; that `map` site is eager on `ParFlatMapFilter` -/
theorem Par.applyT_map_args (P : Par) (k : Nat) (f : Val → Val)
    (hfresh : ∀ e ∈ P.stream.log, e.stage ≠ k) :
    ((P.applyT (.map k f)).1.stream.log.filter (·.stage == k)).map (·.arg) = P.stream.vals := by
  obtain ⟨T, hT, hv, hl⟩ := P.applyT_from (.map k f)
  rw [hT, ← hv]
  exact Prod.mapW_call_args k f T fun e he => hfresh e (hl ▸ List.mem_append_right _ he)

def Par.buildStep (acc : Par × List Event) (op : Op) : Par × List Event :=
  let (P, e) := acc.1.applyT op; (P, acc.2 ++ e)

theorem Par.build_eq (s : Src) (ops : List Op) :
    Par.build s ops = ops.foldl Par.buildStep (Par.new s, []) := rfl

theorem Par.buildStep_lazy (acc : Par × List Event) (op : Op) (h : acc.1.isEagerSite op = false) :
    (Par.buildStep acc op).2 = acc.2 ∧
      (Par.buildStep acc op).1.stream = op.applySeq acc.1.stream :=
  ⟨(congrArg (acc.2 ++ ·) (acc.1.applyT_lazy op h).2.1).trans (List.append_nil _),
    acc.1.applyT_lazy_stream op h⟩

theorem Par.buildStep_from (acc : Par × List Event) (op : Op) :
    ∃ T : Prod, (Par.buildStep acc op).1.stream = op.applySeq T ∧ T.vals = acc.1.stream.vals ∧
      (Par.buildStep acc op).2 ++ T.log = acc.2 ++ acc.1.stream.log := by
  obtain ⟨T, hT, hv, hl⟩ := acc.1.applyT_from op
  exact ⟨T, hT, hv, (List.append_assoc ..).trans (congrArg (acc.2 ++ ·) hl)⟩

/-- what a built pipeline and its construction effects have in common with the std chain `S` -/
def Par.Inv (acc : Par × List Event) (S : Prod) : Prop :=
  acc.1.stream.vals = S.vals ∧ (acc.2 ++ acc.1.stream.log).Perm S.log

theorem Par.Inv_step (acc : Par × List Event) (S : Prod) (op : Op) (h : Par.Inv acc S) :
    Par.Inv (Par.buildStep acc op) (op.applySeq S) := by
  obtain ⟨hv, hl⟩ := h
  obtain ⟨T, hT, hTv, hTl⟩ := Par.buildStep_from acc op
  unfold Par.Inv
  rw [hT, Op.applySeq_vals, Op.applySeq_vals, hTv, hv]
  refine ⟨rfl, ((Op.applySeq_log_perm op T).append_left _).trans ?_⟩
  rw [← List.append_assoc, hTl, hTv, hv]
  exact (hl.append_right _).trans (Op.applySeq_log_perm op S).symm

theorem Par.Inv_build (s : Src) (ops : List Op) :
    Par.Inv (Par.build s ops) (seqStream s.items ops) :=
  List.foldl_rel (r := Par.Inv)
    ⟨congrArg Prod.vals (Par.stream_empty {} s), .of_eq (congrArg Prod.log (Par.stream_empty {} s))⟩
    fun op _ acc S => Par.Inv_step acc S op

theorem build_stream_vals (s : Src) (ops : List Op) :
    (Par.build s ops).1.stream.vals = seqVals s.items ops := by
  rw [(Par.Inv_build s ops).1, seqStream_vals]

theorem build_log_perm (s : Src) (ops : List Op) :
    ((Par.build s ops).2 ++ (Par.build s ops).1.stream.log).Perm (seqStream s.items ops).log :=
  (Par.Inv_build s ops).2

def Par.trace (s : Src) : List Op → List Par
  | ops => (List.range (ops.length + 1)).map fun i => (Par.build s (ops.take i)).1

theorem Par.foldl_lazy (ops : List Op) (acc : Par × List Event)
    (h : ∀ i (hi : i < ops.length),
      Par.isEagerSite ((ops.take i).foldl Par.buildStep acc).1 ops[i] = false) :
    (ops.foldl Par.buildStep acc).2 = acc.2 ∧
      (ops.foldl Par.buildStep acc).1.stream = ops.foldl Op.applySeq acc.1.stream := by
  induction ops generalizing acc with
  | nil => exact ⟨rfl, rfl⟩
  | cons op ops ih =>
    obtain ⟨e1, e2⟩ := Par.buildStep_lazy acc op (h 0 (Nat.zero_lt_succ _))
    rw [List.foldl_cons, List.foldl_cons, ← e1, ← e2]
    exact ih _ fun i hi => h (i + 1) (Nat.succ_lt_succ hi)

theorem build_lazy_stream (s : Src) (ops : List Op)
    (h : ∀ i (hi : i < ops.length), Par.isEagerSite (Par.build s (ops.take i)).1 ops[i] = false) :
    (Par.build s ops).1.stream = seqStream s.items ops :=
  (Par.foldl_lazy ops _ h).2.trans (congrArg (ops.foldl Op.applySeq) (Par.stream_empty {} s))

theorem Par.stream_vals (P : Par) :
    P.stream.vals = P.src.items.flatMap (fun x => (P.elem x).vals) :=
  Prod.vals_bindList _ _

theorem Par.elem_vals_empty (p s) (x : Val) : ((Par.empty p s).elem x).vals = [x] := rfl

theorem Par.elem_vals_map (p s m) (x : Val) : ((Par.map p s m).elem x).vals = [pv m x] := rfl

theorem Par.elem_vals_fil (p s f) (x : Val) :
    ((Par.fil p s f).elem x).vals = [x].filter (pv f) :=
  Prod.vals_filterW f _

theorem Par.elem_vals_mapFil (p s m f) (x : Val) :
    ((Par.mapFil p s m f).elem x).vals = [pv m x].filter (pv f) :=
  Prod.vals_filterW f _

theorem Par.elem_vals_filterMap (p s fm) (x : Val) :
    ((Par.filterMap p s fm).elem x).vals = (pv fm x).toList := by
  dsimp only [Par.elem, Prod.single, Prod.filterMapW, pv]
  cases (fm x).val <;> rfl

theorem Par.elem_vals_filterMapFil (p s fm f) (x : Val) :
    ((Par.filterMapFil p s fm f).elem x).vals = (pv fm x).toList.filter (pv f) :=
  (Prod.vals_filterW f _).trans (congrArg _ (Par.elem_vals_filterMap p s fm x))

theorem Par.elem_vals_flatMap (p s g) (x : Val) : ((Par.flatMap p s g).elem x).vals = pvs g x := rfl

theorem Par.elem_vals_flatMapFil (p s g f) (x : Val) :
    ((Par.flatMapFil p s g f).elem x).vals = (pvs g x).filter (pv f) :=
  Prod.vals_filterW f _

theorem Par.stream_vals_empty (p s) : (Par.empty p s).stream.vals = s.items := by
  rw [Par.stream_empty, Prod.vals_ofList]

theorem Par.stream_map (p s m) : (Par.map p s m).stream = (Prod.ofList s.items).mapW m :=
  (Prod.bindList_single _ ▸ Prod.bindList_hom _ rfl (Prod.mapW_append m) s.items Prod.single).symm

theorem Par.stream_fil (p s f) : (Par.fil p s f).stream = (Prod.ofList s.items).filterW f :=
  (Prod.bindList_single _ ▸ Prod.filterW_bindList f s.items Prod.single).symm

theorem Par.stream_filterMap (p s fm) :
    (Par.filterMap p s fm).stream = (Prod.ofList s.items).filterMapW fm :=
  (Prod.bindList_single _ ▸ Prod.bindList_hom _ rfl (Prod.filterMapW_append fm) s.items Prod.single).symm

theorem Par.stream_mapFil (p s m f) :
    (Par.mapFil p s m f).stream = (Par.map p s m).stream.filterW f :=
  (Prod.filterW_bindList f s.items _).symm

theorem Par.stream_filterMapFil (p s fm f) :
    (Par.filterMapFil p s fm f).stream = (Par.filterMap p s fm).stream.filterW f :=
  (Prod.filterW_bindList f s.items _).symm

theorem Par.stream_vals_map (p s m) : (Par.map p s m).stream.vals = s.items.map (pv m) := by
  rw [Par.stream_map, Prod.vals_mapW, Prod.vals_ofList]

theorem Par.stream_vals_fil (p s f) : (Par.fil p s f).stream.vals = s.items.filter (pv f) := by
  rw [Par.stream_fil, Prod.vals_filterW, Prod.vals_ofList]

theorem Par.stream_vals_mapFil (p s m f) :
    (Par.mapFil p s m f).stream.vals = (s.items.map (pv m)).filter (pv f) := by
  rw [Par.stream_mapFil, Prod.vals_filterW, Par.stream_vals_map]

theorem Par.stream_vals_filterMap (p s fm) :
    (Par.filterMap p s fm).stream.vals = s.items.filterMap (pv fm) := by
  rw [Par.stream_filterMap, Prod.vals_filterMapW, Prod.vals_ofList]

theorem Par.stream_vals_filterMapFil (p s fm f) :
    (Par.filterMapFil p s fm f).stream.vals = (s.items.filterMap (pv fm)).filter (pv f) := by
  rw [Par.stream_filterMapFil, Prod.vals_filterW, Par.stream_vals_filterMap]

theorem Par.stream_vals_flatMap (p s g) : (Par.flatMap p s g).stream.vals = s.items.flatMap (pvs g) :=
  Prod.vals_bindList _ _

theorem Par.stream_vals_flatMapFil (p s g f) :
    (Par.flatMapFil p s g f).stream.vals = (s.items.flatMap (pvs g)).filter (pv f) := by
  rw [Par.stream_flatMapFil, Prod.vals_filterW, Par.stream_vals_flatMap]

end OrxPar
