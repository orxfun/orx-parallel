/- The ordered bag of `map_col` (`K.bagFinish`): writes that are a permutation of the canonical
   positions fill the bag in order; a write beyond the counted length leaves a gap (panic). -/
import OrxPar.Lemmas.Regroup
namespace OrxPar
open K

theorem le_foldl_max {l : List Nat} {x : Nat} (a : Nat) (hx : x ∈ l) : x ≤ l.foldl Nat.max a :=
  (List.foldl_max (l := l) (a := a)).symm ▸
    Nat.le_trans (List.le_max?_getD_of_mem hx) (Nat.le_max_right ..)

theorem foldl_max_range (a n k : Nat) :
    ((List.range' k n).map (a + · + 1)).foldl Nat.max (a + k) = a + k + n := by
  induction n generalizing k with
  | zero => rfl
  | succ n ih =>
    have e : Nat.max (a + k) (a + k + 1) = a + (k + 1) := Nat.max_eq_right (Nat.le_succ _)
    rw [List.range'_succ, List.map_cons, List.foldl_cons, e, ih]
    exact Nat.succ_add_eq_add_succ (a + k) n

theorem find?_key {l : List (Nat × Val)} (hnd : (l.map (·.1)).Nodup) {k : Nat} {v : Val}
    (h : (k, v) ∈ l) : l.find? (·.1 == k) = some (k, v) := by
  induction l with
  | nil => cases h
  | cons p l ih =>
    rw [List.map_cons, List.nodup_cons] at hnd
    rcases List.mem_cons.1 h with rfl | h
    · exact List.find?_cons_of_pos (beq_iff_eq.2 rfl)
    · rw [List.find?_cons_of_neg, ih hnd.2 h]
      exact fun e => hnd.1 (List.mem_map.2 ⟨(k, v), h, (beq_iff_eq.1 e).symm⟩)

theorem mapM_range' {β : Type} (F : Nat → Option β) (vs : List β) (s : Nat)
    (h : ∀ j (hj : j < vs.length), F (s + j) = some vs[j]) :
    (List.range' s vs.length).mapM F = some vs := by
  induction vs generalizing s with
  | nil => rfl
  | cons v vs ih =>
    have h0 : F s = some v := h 0 (Nat.zero_lt_succ _)
    rw [List.length_cons, List.range'_succ, List.mapM_cons, h0, ih (s + 1) fun j hj => by
      rw [Nat.add_assoc, Nat.add_comm 1 j]; exact h (j + 1) (Nat.succ_lt_succ hj)]
    rfl

/-- the positions are exactly `pre.length, …, pre.length + vs.length - 1`: their maximum matches the
    count, and they are distinct, so each lookup hits -/
theorem bagFinish_of_perm (pre vs : List Val) (writes : List (Nat × Val))
    (hp : writes.Perm ((vs.zipIdx 0).map fun q => (pre.length + q.2, q.1))) :
    bagFinish pre writes = some (pre ++ vs) := by
  have hlen : writes.length = vs.length := by
    rw [hp.length_eq, List.length_map, List.length_zipIdx]
  have hfold : (writes.map (·.1 + 1)).foldl Nat.max pre.length = pre.length + writes.length := by
    rw [(hp.map (·.1 + 1)).foldl_eq' fun x _ y _ z => Nat.max_right_comm z x y, hlen, List.map_map]
    have := foldl_max_range pre.length vs.length 0
    rwa [← List.zipIdx_map_snd, List.map_map] at this
  have hnd : (writes.map (·.1)).Nodup := by
    rw [(hp.map _).nodup_iff, List.map_map]
    exact List.pairwise_map.2 ((zipIdx_pairwise vs 0).imp fun h e =>
      Nat.ne_of_lt h (Nat.add_left_cancel e))
  refine (if_pos (beq_iff_eq.2 hfold)).trans ?_
  rw [hlen, List.range_eq_range', mapM_range' _ vs 0 fun j hj => ?_]
  · rfl
  · rw [Nat.zero_add, find?_key hnd (v := vs[j]) (hp.mem_iff.2 (List.mem_map.2 ⟨(vs[j], j),
      List.mk_mem_zipIdx_iff_getElem?.2 (List.getElem?_eq_getElem hj), rfl⟩))]
    rfl

/-- `none` is the panic of `unwrap_only_if_counts_match` -/
theorem bagFinish_gap (pre : List Val) (writes : List (Nat × Val)) (p : Nat × Val) (hp : p ∈ writes)
    (hbig : pre.length + writes.length ≤ p.1) : bagFinish pre writes = none := by
  have h2 := le_foldl_max pre.length (List.mem_map_of_mem (f := (·.1 + 1)) hp)
  exact if_neg fun e => Nat.not_succ_le_self _ (Nat.le_trans (beq_iff_eq.1 e ▸ h2) hbig)

theorem mapCol_correct (m : Val → Val) (pre : List Val) {xs : List Val} {ex : Exec}
    (h : ex.Accepts xs) :
    bagFinish pre (ex.runMap (mapColTask m pre.length)).flatten = some (seqMapCol m pre xs) := by
  apply bagFinish_of_perm
  unfold Exec.runMap mapColTask
  rw [← List.flatMap_def, ← List.map_flatMap]
  refine ((h.regroup_chunks _).map _).trans (List.Perm.of_eq ?_)
  show (idxElems ex.asg).map _ = _
  rw [h.tiles.idxElems, List.zipIdx_map, List.map_map, List.map_map]
  rfl

end OrxPar
