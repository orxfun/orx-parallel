/-
  The per-element work of the three kernel families, transcribed with logged closures, and the
  closures each type hands to its kernel family (the delegations of src/par/par_*.rs).  That
  together they evaluate, for every source element, exactly the logged stream `P.elem x` is
  `C05_kernel_step` / `C05_kernel_log` (Props/C05.lean); here are the definitions and what the
  composed predicate of the find family does to a step.
-/
import OrxPar.Lemmas.Logged
namespace OrxPar

/-- `map_fil_*` kernels, one source element:
    `let value = map(x); if filter(&value) { … value … }` -/
def mapFilStep (m : Val → W Val) (f : Val → W Bool) (x : Val) : Prod :=
  let value := m x
  let keep := f value.val
  if keep.val then .emit (value.log ++ keep.log) value.val .nil else .skip (value.log ++ keep.log) .nil

/-- `filtermap_fil_*` kernels, one source element:
    `let maybe = filter_map(x); if maybe.has_value() { let value = maybe.value(); if filter(&value) { … } }` -/
def filtermapFilStep (fm : Val → W (Option Val)) (f : Val → W Bool) (x : Val) : Prod :=
  let maybe := fm x
  match maybe.val with
  | none => .skip maybe.log .nil
  | some value =>
    let keep := f value
    if keep.val then .emit (maybe.log ++ keep.log) value .nil else .skip (maybe.log ++ keep.log) .nil

/-- `flatmap_fil_*` kernels, one source element: `flat_map(x).into_iter().filter(filter)` -/
def flatmapFilStep (g : Val → Prod) (f : Val → W Bool) (x : Val) : Prod := (g x).filterW f

/-- which kernel family a type's terminals run, with which closures (`Par.core`) -/
def Par.kernelStep : Par → Val → Prod
  | .empty _ _ => mapFilStep Par.mapSelf Par.noFilter
  | .map _ _ m => mapFilStep m Par.noFilter
  | .fil _ _ f => mapFilStep Par.mapSelf f
  | .mapFil _ _ m f => mapFilStep m f
  | .filterMap _ _ fm => filtermapFilStep fm Par.noFilter
  | .filterMapFil _ _ fm f => filtermapFilStep fm f
  | .flatMap _ _ g => flatmapFilStep g Par.noFilter
  | .flatMapFil _ _ g f => flatmapFilStep g f

theorem filtermapFilStep_eq (fm : Val → W (Option Val)) (f : Val → W Bool) (x : Val) :
    filtermapFilStep fm f x = ((Prod.single x).filterMapW fm).filterW f := by
  dsimp only [filtermapFilStep, Prod.single, Prod.filterMapW]
  cases (fm x).val <;> rfl

/-- the events of a parallel full-visit terminal phase, written with the kernels' own per-element
    work -/
def Par.kernelLog (P : Par) (ex : Exec) : List Event :=
  ex.order.flatMap fun t => (K.elems (ex.chunksOf t)).flatMap fun x => (P.kernelStep x).log

/-- `filter(x) && predicate(x)` (`find_with_index`, `find` on the filtering types): `predicate` runs
    only on what the chain's filter keeps, after it -/
theorem compAnd_log (f q : Val → W Bool) (x : Val) :
    (Par.compAnd f q x).log = (f x).log ++ (if (f x).val then (q x).log else []) ∧
    (Par.compAnd f q x).val = ((f x).val && (q x).val) := by
  unfold Par.compAnd
  cases h : (f x).val <;> simp [h]

theorem mapFilStep_compAnd (m : Val → W Val) (f : Val → W Bool) (q : Val → Bool) (x : Val) :
    mapFilStep m (Par.compAnd f (callW stPred q)) x
      = (mapFilStep m f x).filterW (callW stPred q) :=
  Prod.filterW_compAnd f _ ((Prod.single x).mapW m)

theorem filtermapFilStep_compAnd (fm : Val → W (Option Val)) (f : Val → W Bool) (q : Val → Bool)
    (x : Val) :
    filtermapFilStep fm (Par.compAnd f (callW stPred q)) x
      = (filtermapFilStep fm f x).filterW (callW stPred q) := by
  rw [filtermapFilStep_eq, filtermapFilStep_eq]
  exact Prod.filterW_compAnd f _ _

theorem flatmapFilStep_compAnd (g : Val → Prod) (f : Val → W Bool) (q : Val → Bool) (x : Val) :
    flatmapFilStep g (Par.compAnd f (callW stPred q)) x
      = (flatmapFilStep g f x).filterW (callW stPred q) :=
  Prod.filterW_compAnd f _ (g x)

end OrxPar

