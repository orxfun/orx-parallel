/- What an accepted execution gives every kernel: the chunks tile the source, and regrouping
   them by worker in spawn order only permutes them. -/
import OrxPar.Model.Accept
namespace OrxPar
open K

theorem flatMap_congr' {α β : Type} {l : List α} {f g : α → List β} (h : ∀ a ∈ l, f a = g a) :
    l.flatMap f = l.flatMap g :=
  congrArg List.flatten (List.map_congr_left h)

theorem zipIdx_pairwise {α : Type} (l : List α) (s : Nat) :
    (l.zipIdx s).Pairwise fun a b => a.2 < b.2 :=
  List.pairwise_map.1 (List.zipIdx_map_snd s l ▸ List.pairwise_lt_range')

theorem hom_eq_flatMap {α β : Type} (S : List α → List β) (h0 : S [] = [])
    (hS : ∀ a b, S (a ++ b) = S a ++ S b) (l : List α) : S l = l.flatMap fun x => S [x] := by
  induction l with
  | nil => exact h0
  | cons x xs ih => rw [List.flatMap_cons, ← ih, ← hS]; rfl

theorem Aux.idxElems_nil : idxElems [] = [] := rfl

theorem idxElems_cons (c : Chunk) (cs : List Chunk) :
    idxElems (c :: cs) = (c.items.zipIdx c.start).map (fun p => (p.2, p.1)) ++ idxElems cs :=
  List.flatMap_cons

theorem _root_.List.Sublist.flatMap {α β : Type} {l₁ l₂ : List α} (h : l₁.Sublist l₂)
    (F : α → List β) : (l₁.flatMap F).Sublist (l₂.flatMap F) := by
  induction h with
  | slnil => exact .refl _
  | cons a _ ih => exact List.sublist_append_of_sublist_right ih
  | cons_cons a _ ih => exact .append (.refl _) ih

theorem Tiles.elems {cs : List Chunk} {p : Nat} {xs : List Val} (h : Tiles cs p xs) :
    elems cs = xs := by
  induction cs generalizing p xs with
  | nil => exact h.symm
  | cons c cs ih =>
    obtain ⟨_, _, rest, rfl, hr⟩ := h
    rw [← ih hr]
    exact List.flatMap_cons

theorem Tiles.idxElems {cs : List Chunk} {p : Nat} {xs : List Val} (h : Tiles cs p xs) :
    idxElems cs = (xs.zipIdx p).map fun q => (q.2, q.1) := by
  induction cs generalizing p xs with
  | nil => cases (h : xs = []); rfl
  | cons c cs ih =>
    obtain ⟨rfl, _, rest, rfl, hr⟩ := h
    rw [List.zipIdx_append, List.map_append, ← ih hr]
    exact List.flatMap_cons

def Inc (l : List Chunk) : Prop := l.Pairwise fun a b => a.start + a.items.length ≤ b.start

theorem Tiles.inc {l : List Chunk} {p : Nat} {xs : List Val} (h : Tiles l p xs) :
    Inc l ∧ ∀ c ∈ l, p ≤ c.start := by
  induction l generalizing p xs with
  | nil => exact ⟨.nil, nofun⟩
  | cons c cs ih =>
    obtain ⟨rfl, _, rest, _, hr⟩ := h
    obtain ⟨hinc, hle⟩ := ih hr
    exact ⟨List.pairwise_cons.2 ⟨hle, hinc⟩, List.forall_mem_cons.2
      ⟨Nat.le_refl _, fun b hb => Nat.le_trans (Nat.le_add_right _ _) (hle b hb)⟩⟩

theorem Tiles.snoc {l : List Chunk} {a : Nat} {xs : List Val} (h : Tiles l a xs) (c : Chunk)
    (hs : c.start = a + xs.length) (hne : c.items ≠ []) : Tiles (l ++ [c]) a (xs ++ c.items) := by
  induction l generalizing a xs with
  | nil =>
    cases (h : xs = [])
    exact ⟨hs, hne, [], (List.append_nil _).symm, rfl⟩
  | cons d l ih =>
    obtain ⟨h1, h2, rest, rfl, h4⟩ := h
    exact ⟨h1, h2, rest ++ c.items, List.append_assoc _ _ _,
      ih h4 (by rw [hs, List.length_append, Nat.add_assoc])⟩

theorem partition_perm (order : List Nat) : ∀ (asg : List Chunk), order.Nodup →
    (∀ c ∈ asg, c.tid ∈ order) →
    (order.flatMap fun t => asg.filter (·.tid == t)).Perm asg := by
  induction order with
  | nil =>
    intro asg _ hall
    rw [List.eq_nil_iff_forall_not_mem.2 fun c hc => List.not_mem_nil (hall c hc)]
    exact .nil
  | cons t ts ih =>
    intro asg hnd hall
    obtain ⟨ht, hts⟩ := List.nodup_cons.1 hnd
    -- the chunks of `t` first, then the others regrouped by `ts`: a later worker finds all its
    -- chunks among the others
    have hrest : ∀ t' ∈ ts, (asg.filter fun c => !(c.tid == t)).filter (·.tid == t')
        = asg.filter (·.tid == t') := by
      intro t' ht'
      rw [List.filter_filter]
      refine List.filter_congr fun c _ => ?_
      cases h : c.tid == t'
      · rfl
      · rw [beq_iff_eq.1 h, beq_false_of_ne fun e : t' = t => ht (e ▸ ht')]
        rfl
    rw [List.flatMap_cons, ← flatMap_congr' hrest]
    refine ((ih _ hts fun c hc => ?_).append_left _).trans (List.filter_append_perm _ _)
    obtain ⟨hc, hne⟩ := List.mem_filter.1 hc
    exact (List.mem_cons.1 (hall c hc)).resolve_left fun e => by
      rw [beq_iff_eq.2 e] at hne; cases hne

theorem Exec.AcceptsFindAt.accepts {ex : Exec} {xs : List Val} {hit : Val → Bool} {n : Nat}
    (h : ex.AcceptsFindAt xs hit n) : ex.Accepts (xs.take n) :=
  ⟨h.tiles, h.nodup, h.tids⟩

theorem Exec.Accepts.regroup_chunks {β : Type} {ex : Exec} {xs : List Val} (h : ex.Accepts xs)
    (F : Chunk → List β) :
    (ex.order.flatMap fun t => (ex.chunksOf t).flatMap F).Perm (ex.asg.flatMap F) := by
  rw [← List.flatMap_assoc]
  exact (partition_perm _ _ h.nodup h.tids).flatMap_right F

theorem Exec.Accepts.regroup {β : Type} {ex : Exec} {xs : List Val} (h : ex.Accepts xs)
    (L : Val → List β) :
    (ex.order.flatMap fun t => (elems (ex.chunksOf t)).flatMap L).Perm (xs.flatMap L) := by
  rw [← h.tiles.elems]
  simp only [K.elems, List.flatMap_assoc]
  exact h.regroup_chunks _

end OrxPar
