/- Short-circuit terminals: a worker scans its elements up to the first output (`scanLog`), and the
   sequential find is the scan of the source.  No parallel execution performs an invocation more
   often than the full sequential evaluation; every accepted one performs every invocation of the
   lazy sequential evaluation (`certainLog`): the elements before the first hit are scanned
   completely by whoever pulled them, and the first hit up to its match. -/
import OrxPar.Lemmas.Logged
namespace OrxPar

theorem Prod.first_skip (e : List Event) (r : Prod) :
    (Prod.skip e r).first = (r.first.1, e ++ r.first.2) := rfl

theorem Prod.first_log_prefix (s : Prod) : s.first.2 <+: s.log := by
  induction s with
  | nil => exact List.prefix_refl _
  | emit e v r ih => exact List.prefix_append _ _
  | skip e r ih =>
    rw [Prod.first_skip]
    simp only [Prod.log]
    exact (List.prefix_append_right_inj e).2 ih

theorem Prod.first_none_log (s : Prod) (h : s.first.1 = none) : s.first.2 = s.log := by
  induction s with
  | nil => rfl
  | emit e v r ih => simp [Prod.first] at h
  | skip e r ih =>
    rw [Prod.first_skip] at h ⊢
    simp only [Prod.log]
    rw [ih h]

theorem Prod.first_append (s t : Prod) :
    (s.append t).first
      = if s.first.1.isSome then s.first else (t.first.1, s.first.2 ++ t.first.2) := by
  induction s with
  | nil | emit e v r ih => rfl
  | skip e r ih =>
    simp only [Prod.append, Prod.first_skip, ih]
    split <;> rename_i h <;> simp [h, List.append_assoc]

theorem scanLog_cons (g : Val → Prod) (x : Val) (r : List Val) :
    scanLog g (x :: r)
      = if (g x).first.1.isSome then (g x).first.2 else (g x).first.2 ++ scanLog g r := by
  simp only [scanLog]
  rcases (g x).first with ⟨_ | _, l⟩ <;> rfl

theorem Prod.first_bindList (xs : List Val) (g : Val → Prod) :
    (Prod.bindList xs g).first.2 = scanLog g xs := by
  induction xs with
  | nil => rfl
  | cons x r ih =>
    rw [scanLog_cons]
    simp only [Prod.bindList, Prod.first_append, ← ih]
    cases (g x).first.1.isSome <;> rfl

theorem scanLog_prefix (g : Val → Prod) (xs : List Val) : scanLog g xs <+: (Prod.bindList xs g).log :=
  Prod.first_bindList xs g ▸ Prod.first_log_prefix _

theorem Par.seqFindLog_eq_scan (P : Par) (q : Val → Bool) :
    P.seqFindLog q = scanLog (P.elemQ q) P.src.items := by
  unfold Par.seqFindLog Par.stream
  rw [Prod.filterW_bindList, Prod.first_bindList]
  rfl

theorem _root_.List.count_flatMap_le {α β : Type} [BEq β] (e : β) (l : List α) (f g : α → List β)
    (h : ∀ t, (f t).count e ≤ (g t).count e) :
    (l.flatMap f).count e ≤ (l.flatMap g).count e := by
  induction l with
  | nil => simp
  | cons x xs ih =>
    simp only [List.flatMap_cons, List.count_append]
    exact Nat.add_le_add (h x) ih

theorem scan_count_le (g : Val → Prod) {ex : Exec} {xs : List Val} {n : Nat}
    (h : ex.Accepts (xs.take n)) (e : Event) :
    (ex.order.flatMap fun t => scanLog g (K.elems (ex.chunksOf t))).count e
      ≤ (xs.flatMap fun x => (g x).log).count e := by
  rw [← List.take_append_drop n xs, List.flatMap_append, List.count_append,
    ← (h.regroup fun x => (g x).log).count_eq e]
  refine Nat.le_trans (List.count_flatMap_le e ex.order _ _ fun t => ?_) (Nat.le_add_right _ _)
  have := scanLog_prefix g (K.elems (ex.chunksOf t))
  rw [Prod.log_bindList] at this
  exact this.sublist.count_le e

theorem Par.log_filterW_stream (P : Par) (q : Val → Bool) :
    (P.stream.filterW (callW stPred q)).log = P.src.items.flatMap fun x => (P.elemQ q x).log := by
  unfold Par.stream
  rw [Prod.filterW_bindList, Prod.log_bindList]
  rfl

def hitOf (g : Val → Prod) (x : Val) : Bool := (g x).first.1.isSome

theorem scanLog_no_hit (g : Val → Prod) (A : List Val) (hA : ∀ a ∈ A, hitOf g a = false) :
    scanLog g A = A.flatMap fun a => (g a).first.2 := by
  induction A with
  | nil => rfl
  | cons a A ih =>
    have ha : (g a).first.1.isSome = false := hA a List.mem_cons_self
    rw [scanLog_cons, ha, List.flatMap_cons, ih fun a' ha' => hA a' (List.mem_cons_of_mem _ ha')]
    rfl

theorem scanLog_append (g : Val → Prod) (A B : List Val) :
    scanLog g (A ++ B) = if A.any (hitOf g) then scanLog g A else scanLog g A ++ scanLog g B := by
  induction A with
  | nil => rfl
  | cons a A ih =>
    rw [List.cons_append, scanLog_cons, scanLog_cons, ih, List.any_cons]
    show _ = if ((g a).first.1.isSome || A.any (hitOf g)) = true then _ else _
    cases (g a).first.1.isSome with
    | true => rfl
    | false =>
      cases A.any (hitOf g) with
      | true => rfl
      | false => exact (List.append_assoc _ _ _).symm

theorem mem_scanLog_append (g : Val → Prod) (A B : List Val) (e : Event) :
    e ∈ scanLog g (A ++ B) ↔ e ∈ scanLog g A ∨ A.any (hitOf g) = false ∧ e ∈ scanLog g B := by
  rw [scanLog_append]
  cases A.any (hitOf g) with
  | true => exact ⟨Or.inl, fun h => h.elim id fun h => nomatch h.1⟩
  | false => exact List.mem_append.trans (or_congr_right ⟨fun h => ⟨rfl, h⟩, And.right⟩)

theorem scanLog_take_of_hit (g : Val → Prod) (xs : List Val) (n : Nat)
    (h : xs.length ≤ n ∨ ∃ x ∈ xs.take n, hitOf g x = true) :
    scanLog g xs = scanLog g (xs.take n) := by
  rcases h with h | h
  · rw [List.take_of_length_le h]
  · conv => lhs; rw [← List.take_append_drop n xs, scanLog_append, if_pos (List.any_eq_true.2 h)]

/-- what the scan of all chunks one after the other evaluates, some worker evaluates: a worker
    reaches each of its elements with fewer elements before it -/
theorem scan_covered (g : Val → Prod) (ex : Exec) (htid : ∀ c ∈ ex.asg, c.tid ∈ ex.order)
    (e : Event) (he : e ∈ scanLog g (K.elems ex.asg)) :
    e ∈ ex.order.flatMap fun t => scanLog g (K.elems (ex.chunksOf t)) := by
  have key : ∀ cs : List Chunk, e ∈ scanLog g (K.elems cs) →
      ∃ c ∈ cs, e ∈ scanLog g (K.elems (cs.filter (·.tid == c.tid))) := by
    intro cs
    induction cs with
    | nil => exact nofun
    | cons c cs ih =>
      -- `K.elems (c :: l)` is `c.items ++ K.elems l` by computation
      intro h
      rcases (mem_scanLog_append g c.items (K.elems cs) e).1 h with h | ⟨hc, h⟩
      · -- evaluated in `c`, which is the first chunk its owner scans
        refine ⟨c, List.mem_cons_self, ?_⟩
        rw [List.filter_cons_of_pos (by exact beq_iff_eq.2 rfl)]
        exact (mem_scanLog_append g c.items _ e).2 (.inl h)
      · -- evaluated after `c`, which has no hit: if the worker `ih` finds also owns `c`, it has
        -- scanned `c` to the end before
        obtain ⟨c', hc', hm⟩ := ih h
        refine ⟨c', List.mem_cons_of_mem _ hc', ?_⟩
        rw [List.filter_cons]
        split
        · exact (mem_scanLog_append g c.items _ e).2 (.inr ⟨hc, hm⟩)
        · exact hm
  obtain ⟨c, hc, hm⟩ := key ex.asg he
  exact List.mem_flatMap.2 ⟨c.tid, htid c hc, hm⟩

/-- the three logs written with the one function the workers scan with (`Par.scanFn`): whether the
    terminal has a predicate no longer matters -/
theorem Par.short_logs (P : Par) (t : Terminal) (hsc : t.isShortCircuit = true) :
    P.certainLog t = scanLog (P.scanFn t) P.src.items ∧
    P.possibleLog t = (if P.params.isSequential then scanLog (P.scanFn t) P.src.items
      else P.src.items.flatMap fun x => (P.scanFn t x).log) ∧
    ∀ ex, P.termLog ex t = if P.params.isSequential then scanLog (P.scanFn t) P.src.items
      else ex.order.flatMap fun w => scanLog (P.scanFn t) (K.elems (ex.chunksOf w)) := by
  unfold Par.certainLog Par.possibleLog Par.termLog Par.scanFn
  cases t.pred? with
  | none =>
    -- no predicate: first output resp. log of `P.stream`, a `bindList` over the source
    rw [hsc, ← Prod.first_bindList, ← Prod.log_bindList]
    exact ⟨rfl, rfl, fun _ => rfl⟩
  | some q =>
    -- the same for the stream filtered by the predicate
    rw [← Par.seqFindLog_eq_scan, ← Par.log_filterW_stream]
    exact ⟨rfl, rfl, fun _ => rfl⟩

/-- short-circuit terminals, the answer "no" of `panicPred`: whatever prefix of the source was
    pulled and however it was distributed -/
theorem Par.termLog_sub_possible_short (P : Par) (ex : Exec) (t : Terminal)
    (hsc : t.isShortCircuit = true) (n : Nat)
    (h : P.params.isSequential = true ∨ ex.Accepts (P.src.items.take n))
    (e : Event) (he : e ∈ P.termLog ex t) : e ∈ P.possibleLog t := by
  obtain ⟨_, hposs, hterm⟩ := P.short_logs t hsc
  rw [hterm] at he
  rw [hposs]
  by_cases hs : P.params.isSequential = true
  · rw [if_pos hs] at he ⊢
    exact he
  · rw [if_neg hs] at he ⊢
    -- what the workers evaluate occurs at least as often in the complete evaluation
    exact List.count_pos_iff.1 (Nat.lt_of_lt_of_le (List.count_pos_iff.2 he)
      (scan_count_le _ (h.resolve_left hs) e))

/-- short-circuit terminals, the answer "yes" of `panicPred`; `hcov`: the pulled chunks tile a
    prefix that is everything or contains a hit -/
theorem Par.certain_sub_termLog_short (P : Par) (ex : Exec) (t : Terminal)
    (hsc : t.isShortCircuit = true) (n : Nat)
    (ht : Tiles ex.asg 0 (P.src.items.take n)) (htid : ∀ c ∈ ex.asg, c.tid ∈ ex.order)
    (hcov : P.src.items.length ≤ n ∨ ∃ x ∈ P.src.items.take n, hitOf (P.scanFn t) x = true)
    (e : Event) (he : e ∈ P.certainLog t) : e ∈ P.termLog ex t := by
  obtain ⟨hc, _, ht'⟩ := P.short_logs t hsc
  rw [hc] at he
  rw [ht']
  split
  · exact he
  · rw [scanLog_take_of_hit _ _ n hcov, ← ht.elems] at he
    exact scan_covered _ ex htid e he

end OrxPar
