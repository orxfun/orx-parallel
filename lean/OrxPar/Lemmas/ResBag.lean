/- The ordered bag of `Model/Resources.lean`: what a sequence of positional writes does. -/
import OrxPar.Model.Resources
namespace OrxPar
namespace Res

/-- the `set_value` calls `(position, token)` of all workers, in the order in which they happen -/
def Bag.writes (b : Bag) (ws : List (Nat × Nat)) : Bag := ws.foldl (fun b w => b.write w.1 w.2) b

theorem Bag.writes_cons (b : Bag) (w : Nat × Nat) (ws : List (Nat × Nat)) :
    b.writes (w :: ws) = (b.write w.1 w.2).writes ws := rfl

theorem Bag.write_uninit {b : Bag} {pos tok : Nat} (h : b.cells[pos]? = some Cell.uninit) :
    b.write pos tok = { b with cells := b.cells.set pos (Cell.init tok),
                               numPushed := b.numPushed + 1,
                               len := max b.len (pos + 1) } := by
  unfold Bag.write; rw [h]; rfl

theorem Bag.write_cells_ne (b : Bag) {pos p : Nat} (tok : Nat) (h : pos ≠ p) :
    (b.write pos tok).cells[p]? = b.cells[p]? := by
  unfold Bag.write
  split
  · rfl
  · exact List.getElem?_set_ne h

theorem Bag.write_length (b : Bag) (pos tok : Nat) :
    (b.write pos tok).cells.length = b.cells.length := by
  unfold Bag.write
  split
  · rfl
  · exact List.length_set

theorem Bag.write_bad {b : Bag} {pos : Nat} (tok : Nat) (h : pos < b.cells.length) :
    (b.write pos tok).bad = b.bad := by
  unfold Bag.write
  rw [List.getElem?_eq_getElem h]

theorem Bag.writes_cells_ne (ws : List (Nat × Nat)) (b : Bag) {p : Nat} (hp : p ∉ ws.map (·.1)) :
    (b.writes ws).cells[p]? = b.cells[p]? := by
  induction ws generalizing b with
  | nil => rfl
  | cons w ws ih =>
    rw [List.map_cons, List.mem_cons, not_or] at hp
    rw [Bag.writes_cons, ih _ hp.2, Bag.write_cells_ne b w.2 (Ne.symm hp.1)]

theorem Bag.writes_bad (ws : List (Nat × Nat)) (b : Bag) (hin : ∀ w ∈ ws, w.1 < b.cells.length) :
    (b.writes ws).bad = b.bad := by
  induction ws generalizing b with
  | nil => rfl
  | cons w ws ih =>
    rw [Bag.writes_cons, ih, Bag.write_bad w.2 (hin w List.mem_cons_self)]
    intro w' hw'
    rw [Bag.write_length]
    exact hin w' (List.mem_cons_of_mem _ hw')

theorem Bag.write_comm {b : Bag} {p q : Nat} (t u : Nat) (hpq : p ≠ q)
    (hp : b.cells[p]? = some Cell.uninit) (hq : b.cells[q]? = some Cell.uninit) :
    (b.write p t).write q u = (b.write q u).write p t := by
  have hq' : (b.write p t).cells[q]? = some Cell.uninit := by rw [Bag.write_cells_ne b t hpq, hq]
  have hp' : (b.write q u).cells[p]? = some Cell.uninit := by rw [Bag.write_cells_ne b u hpq.symm, hp]
  rw [Bag.write_uninit hq', Bag.write_uninit hp', Bag.write_uninit hp, Bag.write_uninit hq]
  simp only [List.set_comm _ _ hpq, Nat.max_assoc, Nat.max_comm (p + 1)]

theorem Bag.writes_perm {l₁ l₂ : List (Nat × Nat)} (hp : l₁.Perm l₂) : ∀ (b : Bag),
    (∀ w ∈ l₁, b.cells[w.1]? = some Cell.uninit) → (l₁.map (·.1)).Nodup →
    b.writes l₁ = b.writes l₂ := by
  induction hp with
  | nil => intros; rfl
  | cons x _ ih =>
    intro b hu hnd
    rw [List.map_cons, List.nodup_cons] at hnd
    refine ih _ (fun w hw => ?_) hnd.2
    rw [Bag.write_cells_ne b x.2 (fun e => hnd.1 (List.mem_map.2 ⟨w, hw, e.symm⟩))]
    exact hu w (List.mem_cons_of_mem _ hw)
  | swap x y l =>
    intro b hu hnd
    simp only [List.map_cons, List.nodup_cons, List.mem_cons, not_or] at hnd
    rw [Bag.writes_cons, Bag.writes_cons, Bag.write_comm y.2 x.2 hnd.1.1 (hu y List.mem_cons_self)
      (hu x (List.mem_cons_of_mem _ List.mem_cons_self))]
    rfl
  | trans h₁ _ ih₁ ih₂ =>
    intro b hu hnd
    rw [ih₁ b hu hnd]
    exact ih₂ b (fun w hw => hu w (h₁.mem_iff.2 hw)) ((h₁.map _).nodup_iff.1 hnd)

theorem Bag.new_length (pre : List Nat) (extra : Nat) :
    (Bag.new pre extra).cells.length = pre.length + extra := by
  show (pre.map Cell.init ++ List.replicate extra Cell.uninit).length = _
  rw [List.length_append, List.length_map, List.length_replicate]

theorem Bag.new_cells_right (pre : List Nat) (extra : Nat) {p : Nat} (h1 : pre.length ≤ p)
    (h2 : p < pre.length + extra) : (Bag.new pre extra).cells[p]? = some Cell.uninit := by
  show (pre.map Cell.init ++ List.replicate extra Cell.uninit)[p]? = _
  rw [List.getElem?_append_right (by rw [List.length_map]; exact h1), List.getElem?_replicate, List.length_map,
    if_pos (Nat.sub_lt_left_of_lt_add h1 h2)]

theorem Bag.new_write (pre : List Nat) (extra tok : Nat) :
    (Bag.new pre (extra + 1)).write pre.length tok = Bag.new (pre ++ [tok]) extra := by
  rw [Bag.write_uninit (Bag.new_cells_right pre _ (Nat.le_refl _) (Nat.lt_add_of_pos_right (Nat.succ_pos _)))]
  simp [Bag.new, List.replicate_succ, Nat.max_eq_right]

theorem Bag.new_writes (toks pre : List Nat) (extra : Nat) :
    (Bag.new pre (toks.length + extra)).writes ((toks.zipIdx pre.length).map fun p => (p.2, p.1))
      = Bag.new (pre ++ toks) extra := by
  induction toks generalizing pre with
  | nil => simp [Bag.writes]
  | cons t toks ih =>
    have := ih (pre ++ [t])
    rw [List.length_append, List.length_singleton, List.append_assoc] at this
    rw [List.zipIdx_cons, List.map_cons, Bag.writes_cons, List.length_cons, Nat.add_right_comm,
      Bag.new_write, this]
    rfl

theorem held_map_init (l : List Nat) : held (l.map Cell.init) = l :=
  List.filterMap_map.trans List.filterMap_some

theorem Bag.new_finish (pre : List Nat) (extra : Nat) :
    (Bag.new pre extra).finish = some { out := pre, dropped := [], leaked := [], bad := 0 } := by
  unfold Bag.finish
  rw [show (Bag.new pre extra).len = pre.length from rfl,
    show (Bag.new pre extra).cells.take pre.length = pre.map Cell.init from List.take_left' (List.length_map _)]
  dsimp only
  rw [held_map_init, List.filter_map, List.filter_eq_nil_iff.2]
  · exact if_pos (beq_iff_eq.2 rfl)
  · exact fun _ _ => Bool.false_ne_true

/-- fewer writes than free cells leave a never-written cell, which the capacity-wide drop hits -/
theorem Bag.unguarded_writes (pre : List Nat) (extra : Nat) (ws : List (Nat × Nat))
    (hgap : ws.length < extra)
    (hmis : ((Bag.new pre extra).writes ws).numPushed ≠ ((Bag.new pre extra).writes ws).len) :
    0 < ((Bag.new pre extra).writes ws).unwindUnguarded.bad := by
  have ⟨p, hp, hpw⟩ : ∃ p ∈ List.range' pre.length extra, p ∉ ws.map (·.1) := by
    apply Classical.byContradiction
    intro h
    have := List.Nodup.length_le_of_subset (List.nodup_range' (s := pre.length) (n := extra))
      (l₂ := ws.map (·.1)) (fun p hp => Classical.byContradiction fun hn => h ⟨p, hp, hn⟩)
    rw [List.length_range', List.length_map] at this
    exact Nat.not_le_of_lt hgap this
  rw [List.mem_range'_1] at hp
  have hcell := Bag.writes_cells_ne ws (Bag.new pre extra) hpw
  rw [Bag.new_cells_right pre extra hp.1 hp.2] at hcell
  generalize (Bag.new pre extra).writes ws = b at *
  unfold Bag.unwindUnguarded
  rw [beq_eq_false_iff_ne.2 hmis]
  have h1 : (1 : Nat) ∈ ((b.cells.take b.cells.length).map dropCell).map (·.2) :=
    List.mem_map.2 ⟨([], 1), List.mem_map.2 ⟨Cell.uninit, List.take_length ▸ List.mem_of_getElem? hcell, rfl⟩, rfl⟩
  exact Nat.lt_of_lt_of_le (List.sum_pos_iff_exists_pos_nat.2 ⟨1, h1, Nat.one_pos⟩) (Nat.le_add_left _ _)

end Res
end OrxPar
