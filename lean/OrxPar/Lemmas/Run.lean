/- The invariant of the worker transition system, for every schedule, and what it says about
   finished runs: the pull log is an accepted (find-)execution. -/
import OrxPar.Lemmas.RunStep
namespace OrxPar
namespace Run

def elemsOf (log : List Chunk) (t : Nat) : List (Nat × Val) := K.idxElems (log.filter (·.tid == t))

theorem elemsOf_append (l₁ l₂ : List Chunk) (t : Nat) :
    elemsOf (l₁ ++ l₂) t = elemsOf l₁ t ++ elemsOf l₂ t := by
  simp [elemsOf, K.idxElems]

theorem elemsOf_single_self (t a : Nat) (l : List Val) : elemsOf [⟨t, a, l⟩] t = idx l a := by
  simp [elemsOf, K.idxElems, idx]

theorem mem_elemsOf {log : List Chunk} {t : Nat} {p : Nat × Val} :
    p ∈ elemsOf log t ↔ ∃ c ∈ log, c.tid = t ∧ p ∈ idx c.items c.start := by
  simp only [elemsOf, K.idxElems, List.mem_flatMap, List.mem_filter, beq_iff_eq, and_assoc]
  rfl

theorem elemsOf_append_of_tid_ne {l₁ l₂ : List Chunk} {t : Nat} (h : ∀ c ∈ l₂, c.tid ≠ t) :
    elemsOf (l₁ ++ l₂) t = elemsOf l₁ t := by
  have : l₂.filter (·.tid == t) = [] := List.filter_eq_nil_iff.2 fun c hc e => h c hc (eq_of_beq e)
  rw [elemsOf, List.filter_append, this, List.append_nil]
  rfl

def NoHit (hit : Val → Bool) (l : List (Nat × Val)) : Prop := ∀ p ∈ l, hit p.2 = false

/-- what holds of worker `t` in every reachable state -/
structure WInv (s : State) (t : Nat) (w : Worker) : Prop where
  cpos : 0 < w.c
  /-- the elements of its chunks: evaluated, then still buffered, then abandoned after its hit -/
  own : elemsOf s.log t = w.seen ++ idx w.buf w.bufPos ++ w.dropped
  nofound : w.found = none → NoHit s.hit w.seen ∧ w.dropped = []
  found : ∀ q, w.found = some q → ∃ ini, w.seen = ini ++ [q] ∧ NoHit s.hit ini ∧ s.hit q.2 = true ∧ w.buf = []
  running : w.status = .running → w.found = none
  publishing : w.status = .publishing → w.found.isSome
  /-- a done worker had a reason to finish: its own hit, the stop, or the end of the source -/
  fin : w.status = .done → w.buf = [] ∧
    (w.found.isSome ∨ s.stopped = true ∨ ∃ l, s.len = some l ∧ l ≤ s.pos)

theorem WInv.buf_nil {s : State} {t : Nat} {w : Worker} (h : WInv s t w) (hf : w.found.isSome) :
    w.buf = [] := by
  obtain ⟨q, hq⟩ := Option.isSome_iff_exists.1 hf
  obtain ⟨_, _, _, _, hb⟩ := h.found q hq
  exact hb

theorem WInv.reports {s : State} {t : Nat} {w : Worker} (h : WInv s t w) (hb : w.buf = []) :
    w.found = (elemsOf s.log t).find? (fun p => s.hit p.2) := by
  rw [h.own, hb, idx_nil, List.append_nil]
  cases hf : w.found with
  | none =>
    obtain ⟨h1, h2⟩ := h.nofound hf
    rw [h2, List.append_nil]
    exact (List.find?_eq_none.2 fun p hp => Bool.eq_false_iff.1 (h1 p hp)).symm
  | some q =>
    obtain ⟨ini, h1, h2, h3, _⟩ := h.found q hf
    rw [h1, List.append_assoc, List.find?_append,
      List.find?_eq_none.2 fun p hp => Bool.eq_false_iff.1 (h2 p hp)]
    simp [h3]

theorem WInv.mono {s : State} {t p : Nat} {b : Bool} {ws : List Worker} {L : List Chunk}
    {w : Worker} (h : WInv s t w) (hlog : elemsOf L t = elemsOf s.log t)
    (hst : s.stopped = true → b = true) (hpos : s.pos ≤ p) :
    WInv { s with pos := p, stopped := b, ws := ws, log := L } t w :=
  { h with
    own := hlog.trans h.own
    fin := fun hd => ⟨(h.fin hd).1, (h.fin hd).2.imp id (Or.imp hst fun ⟨l, hl, hle⟩ =>
      ⟨l, hl, Nat.le_trans hle hpos⟩)⟩ }

theorem WInv.done {s : State} {t : Nat} {b : Bool} {ws : List Worker} {w : Worker} (h : WInv s t w)
    (hb : w.buf = []) (hf : w.found.isSome ∨ b = true ∨ ∃ l, s.len = some l ∧ l ≤ s.pos) :
    WInv { s with stopped := b, ws := ws } t { w with status := .done } :=
  { h with running := nofun, publishing := nofun, fin := fun _ => ⟨hb, hf⟩ }

/-- the two steps after which a running worker is still running: a non-hit, a pull -/
theorem WInv.running_set {s : State} {t p : Nat} {b : Bool} {ws : List Worker} {L : List Chunk}
    {w : Worker} {buf : List Val} {bufPos : Nat} {seen : List (Nat × Val)} (h : WInv s t w)
    (hst : w.status = .running) (hown : elemsOf L t = seen ++ idx buf bufPos ++ w.dropped)
    (hnh : NoHit s.hit seen) :
    WInv { s with pos := p, stopped := b, ws := ws, log := L } t
      { w with buf := buf, bufPos := bufPos, seen := seen } :=
  have hfn := h.running hst
  { h with
    own := hown
    nofound := fun _ => ⟨hnh, (h.nofound hfn).2⟩
    found := fun _ hq => nomatch hfn.symm.trans hq
    fin := fun hq => nomatch hq.symm.trans hst }

/-- the invariant of the worker transition system: the log tiles what was handed out (`tile`), and
    every worker accounts for its chunks (`ws`) -/
structure Inv (s : State) : Prop where
  tile : Tiles s.log 0 (slice s.src 0 (covered s))
  ws : ∀ (t : Nat) (w : Worker), s.ws[t]? = some w → WInv s t w
  /-- a buffer is what is left of one chunk: this bounds `phi` by the chunk sizes (`phi_le`) -/
  small : ∀ (t : Nat) (w : Worker), s.ws[t]? = some w → w.buf.length ≤ w.c
  /-- a finder goes from `publishing` to `done` by the step that stops the iterator -/
  pubstop : ∀ (t : Nat) (w : Worker), s.ws[t]? = some w → w.found.isSome → w.status = .done → s.stopped = true
  /-- a stop is justified by a match among the elements handed out -/
  stoppedBy : s.stopped = true → ∃ x ∈ slice s.src 0 (covered s), s.hit x = true
  tids : ∀ c ∈ s.log, c.tid < s.ws.length

theorem Inv.owner {s : State} (h : Inv s) {i : Nat} (hi : i < covered s) :
    ∃ (t : Nat) (w : Worker), s.ws[t]? = some w ∧ (i, s.src i) ∈ elemsOf s.log t := by
  have hm : (i, s.src i) ∈ K.idxElems s.log := by
    rw [h.tile.idxElems]; exact mem_idx_slice.2 ⟨hi, rfl⟩
  obtain ⟨c, hc, hp⟩ := List.mem_flatMap.1 hm
  exact ⟨c.tid, _, List.getElem?_eq_getElem (h.tids c hc), mem_elemsOf.2 ⟨c, hc, rfl, hp⟩⟩

theorem Inv.mem_log {s : State} (h : Inv s) {t : Nat} {p : Nat × Val} (hp : p ∈ elemsOf s.log t) :
    p.1 < covered s ∧ p.2 = s.src p.1 := by
  obtain ⟨c, hc, _, hp⟩ := mem_elemsOf.1 hp
  have : p ∈ K.idxElems s.log := List.mem_flatMap.2 ⟨c, hc, hp⟩
  rw [h.tile.idxElems] at this
  exact mem_idx_slice.1 this

/-- a finder's match is among the elements handed out -/
theorem Inv.found_mem {s : State} (h : Inv s) {t : Nat} {w : Worker} (hw : s.ws[t]? = some w)
    (hf : w.found.isSome) : ∃ x ∈ slice s.src 0 (covered s), s.hit x = true := by
  obtain ⟨q, hq⟩ := Option.isSome_iff_exists.1 hf
  have hwi := h.ws t w hw
  obtain ⟨ini, hseen, _, hhit, _⟩ := hwi.found q hq
  obtain ⟨hlt, hv⟩ := h.mem_log (t := t) (p := q) (by rw [hwi.own, hseen]; simp)
  exact ⟨q.2, hv ▸ List.mem_map_of_mem
    (List.mem_range'_1.2 ⟨Nat.zero_le _, (Nat.zero_add _).symm ▸ hlt⟩), hhit⟩

theorem Inv.exhausted {s : State} (h : Inv s) (hns : ¬ s.stopped = true) {t : Nat} {w : Worker}
    (hw : s.ws[t]? = some w) (hd : w.status = .done) : ∃ l, s.len = some l ∧ l ≤ s.pos := by
  rcases ((h.ws t w hw).fin hd).2 with h1 | h1 | h1
  · exact absurd (h.pubstop t w hw h1 hd) hns
  · exact absurd h1 hns
  · exact h1

/-- a step replaces worker `t` by `w'`, moves the position to `p`, sets the flag to `b` and, if it
    is a pull, appends `l` to the log.  The other workers keep their `WInv` by `WInv.mono` (`hpos`,
    `hstop`, `hlog`, `hl`); `htile`, `hstop'`, `hW`, `hsmall`, `hpub` are the fields for the new
    state resp. worker, and `hl` gives `tids` -/
theorem Inv.set {s : State} {t p : Nat} {b : Bool} {w w' : Worker} {L l : List Chunk} (h : Inv s)
    (hw : s.ws[t]? = some w) (hpos : s.pos ≤ p) (hlog : L = s.log ++ l) (hl : ∀ c ∈ l, c.tid = t)
    (htile : Tiles L 0 (slice s.src 0 (cov s.len p)))
    (hstop : s.stopped = true → b = true)
    (hstop' : b = true → ∃ x ∈ slice s.src 0 (cov s.len p), s.hit x = true)
    (hW : WInv { s with pos := p, stopped := b, ws := s.ws.set t w', log := L } t w')
    (hsmall : w'.buf.length ≤ w'.c) (hpub : w'.found.isSome → w'.status = .done → b = true) :
    Inv { s with pos := p, stopped := b, ws := s.ws.set t w', log := L } := by
  subst hlog
  have key : ∀ (t' : Nat) (v : Worker), (s.ws.set t w')[t']? = some v →
      WInv { s with pos := p, stopped := b, ws := s.ws.set t w', log := s.log ++ l } t' v ∧
      v.buf.length ≤ v.c ∧ (v.found.isSome → v.status = .done → b = true) := by
    intro t' v hv
    rcases get_set hw hv with ⟨rfl, rfl⟩ | ⟨hne, hv⟩
    · exact ⟨hW, hsmall, hpub⟩
    · exact ⟨(h.ws t' v hv).mono (elemsOf_append_of_tid_ne fun c hc => hl c hc ▸ Ne.symm hne)
        hstop hpos, h.small t' v hv, fun a b => hstop (h.pubstop t' v hv a b)⟩
  refine ⟨htile, fun t' v hv => (key t' v hv).1, fun t' v hv => (key t' v hv).2.1,
    fun t' v hv => (key t' v hv).2.2, hstop', fun c hc => ?_⟩
  show c.tid < (s.ws.set t w').length
  rw [List.length_set]
  rcases List.mem_append.1 hc with hc | hc
  · exact h.tids c hc
  · rw [hl c hc]; exact get_lt hw

theorem init_ws_get {src : Nat → Val} {len : Option Nat} {hit : Val → Bool} {cs : List Nat}
    {t : Nat} {w : Worker} (hw : (init src len hit cs).ws[t]? = some w) :
    ∃ c ∈ cs, w = ⟨c, [], 0, .running, [], none, []⟩ := by
  simp only [init, List.getElem?_map, Option.map_eq_some_iff] at hw
  obtain ⟨c, hc, rfl⟩ := hw
  exact ⟨c, List.mem_of_getElem? hc, rfl⟩

theorem Local.winv {s : State} {t : Nat} {w w' : Worker} {b : Bool} (hl : Local s w w' b)
    (h : WInv s t w) :
    WInv { s with stopped := b, ws := s.ws.set t w' } t w' ∧
    (b = true → s.stopped = true ∨ w.found.isSome) ∧
    (w'.found.isSome → w'.status = .done → b = true) := by
  cases hl with
  | publish hst =>
    have hf := h.publishing hst
    exact ⟨h.done (h.buf_nil hf) (Or.inl hf), fun _ => Or.inr hf, fun _ _ => rfl⟩
  | @hit x rest hst hb hx =>
    obtain ⟨hnh, hd⟩ := h.nofound (h.running hst)
    refine ⟨{ cpos := h.cpos, own := ?_, nofound := nofun, running := nofun, fin := nofun
              found := fun q hq => by cases hq; exact ⟨w.seen, rfl, hnh, hx, rfl⟩
              publishing := fun _ => rfl }, Or.inl, fun _ hq => nomatch hq⟩
    rw [h.own, hb, idx_cons, hd]
    simp [hitW, idx_nil]
  | @nohit x rest hst hb hx =>
    refine ⟨h.running_set hst ?_ ?_, Or.inl, fun _ hq => nomatch hq.symm.trans hst⟩
    · rw [h.own, hb, idx_cons, List.append_cons]
    · exact List.forall_mem_append.2
        ⟨(h.nofound (h.running hst)).1, List.forall_mem_singleton.2 hx⟩
  | finish hst hb hx =>
    refine ⟨h.done hb (Or.inr (hx.imp id fun h0 => ?_)), Or.inl,
      fun hq => absurd (h.running hst) (Option.isSome_iff_ne_none.1 hq)⟩
    exact (avail_eq_zero.1 h0).resolve_left (Nat.ne_of_gt h.cpos)

theorem init_inv (src : Nat → Val) (len : Option Nat) (hit : Val → Bool) (cs : List Nat)
    (hpos : ∀ c ∈ cs, 0 < c) : Inv (init src len hit cs) := by
  refine ⟨?_, fun t w hw => ?_, fun t w hw => ?_, fun t w hw => ?_, nofun, nofun⟩
  · rw [Nat.eq_zero_of_le_zero (covered_le (init src len hit cs))]
    rfl
  all_goals obtain ⟨c, hc, rfl⟩ := init_ws_get hw
  · exact { cpos := hpos c hc, own := rfl, nofound := fun _ => ⟨nofun, rfl⟩, found := nofun,
            running := fun _ => rfl, publishing := nofun, fin := nofun }
  · exact Nat.zero_le _
  · exact nofun

theorem step_inv (s : State) (t : Nat) (h : Inv s) : Inv (step s t) := by
  apply step_cases s t (P := Inv) h
  · intro w w' b hw hl
    obtain ⟨hW, hstop', hpub⟩ := hl.winv (h.ws t w hw)
    exact h.set hw (Nat.le_refl _) (List.append_nil _).symm nofun h.tile hl.stopped
      (fun hb => (hstop' hb).elim h.stoppedBy (h.found_mem hw)) hW
      (hsmall := hl.c_eq ▸ Nat.le_trans hl.buf_le (h.small t w hw)) hpub
  · intro w hw hst hb hs hn
    have hwi := h.ws t w hw
    have hfn := hwi.running hst
    obtain ⟨hnh, hd⟩ := hwi.nofound hfn
    obtain ⟨hc1, hc2⟩ := avail_covered s.len s.pos w.c hn
    refine h.set hw (Nat.le_add_right _ _) rfl (List.forall_mem_singleton.2 rfl)
      (htile := ?_) (hstop := id) (hstop' := fun hb => nomatch hs.symm.trans hb)
      (hW := hwi.running_set hst ?_ hnh) (hsmall := ?_)
      (hpub := fun _ hq => nomatch hq.symm.trans hst)
    · rw [hc2, slice_append, Nat.zero_add]
      have ht := h.tile
      rw [covered_eq_cov, hc1] at ht
      exact ht.snoc ⟨t, s.pos, slice s.src s.pos (avail s.len s.pos w.c)⟩
        (by rw [slice_length, Nat.zero_add]) (slice_ne_nil _ _ _ (Nat.pos_of_ne_zero hn))
    · rw [elemsOf_append, hwi.own, hb, hd, idx_nil, elemsOf_single_self]
      simp only [List.append_nil]
    · exact (slice_length _ _ _).symm ▸ avail_le _ _ _

theorem run_inv (s : State) (sched : List Nat) (h : Inv s) : Inv (run s sched) :=
  run_induction step_inv h sched

/-- the execution a finished run denotes.  `Exec.cs` is total, so an id without a worker (none is
    in `order`) gets an arbitrary size, 1 -/
def execOf (s : State) : Exec :=
  { asg := s.log, order := List.range s.ws.length, cs := fun t => (s.ws[t]?.map (·.c)).getD 1 }

/-- so what `WInv` says of `elemsOf s.log t` it says of the chunks a kernel's per-worker task is
    run on (`Exec.runMap`) -/
theorem elemsOf_eq_chunksOf (s : State) (t : Nat) :
    elemsOf s.log t = K.idxElems ((execOf s).chunksOf t) := rfl

theorem Inv.accepts {s₀ s : State} (h : Inv s) (hf : Frame s₀ s) (hd : AllDone s) (hne : s₀.ws ≠ [])
    {N : Nat} (hcov : covered s ≤ N) (hN : ∀ l, s₀.len = some l → N ≤ l) :
    (execOf s).AcceptsFindAt (slice s₀.src 0 N) s₀.hit (covered s) := by
  have htake : (slice s.src 0 N).take (covered s) = slice s.src 0 (covered s) :=
    slice_take _ _ _ hcov
  rw [← hf.src, ← hf.hit]
  refine ⟨htake ▸ h.tile, List.nodup_range, fun c hc => List.mem_range.2 (h.tids c hc), ?_⟩
  rw [htake, slice_length]
  by_cases hs : s.stopped = true
  · exact Or.inr (h.stoppedBy hs)
  · -- worker 0 is done because the source is exhausted
    have h0 : 0 < s.ws.length := hf.ws ▸ List.length_pos_iff.2 hne
    obtain ⟨l, hl, hle⟩ :=
      h.exhausted hs (List.getElem?_eq_getElem h0) (hd _ (List.getElem_mem h0))
    left
    rw [covered_eq_cov, hl]
    exact Nat.le_min.2 ⟨Nat.le_trans (hN l (hf.len ▸ hl)) hle, hN l (hf.len ▸ hl)⟩

/-- For every schedule: when all workers are done, the pull log is an accepted find-execution over
    a window `slice src 0 N` of the source; `hN`: the whole source if its length is known,
    otherwise any `N` that bounds what was handed out -/
theorem run_accepts_find (src : Nat → Val) (len : Option Nat) (hit : Val → Bool) (cs : List Nat)
    (hne : cs ≠ []) (hpos : ∀ c ∈ cs, 0 < c) (sched : List Nat)
    (hd : AllDone (run (init src len hit cs) sched)) (N : Nat)
    (hN : len = some N ∨ (len = none ∧ covered (run (init src len hit cs) sched) ≤ N)) :
    (execOf (run (init src len hit cs) sched)).AcceptsFindAt (slice src 0 N) hit
      (covered (run (init src len hit cs) sched)) := by
  have hf := run_frame (init src len hit cs) sched
  have h := run_inv _ sched (init_inv src len hit cs hpos)
  have hws : (init src len hit cs).ws ≠ [] := fun e => hne (List.map_eq_nil_iff.1 e)
  rcases hN with rfl | ⟨rfl, hN⟩
  · refine h.accepts hf hd hws ?_ fun l hl => Nat.le_of_eq (Option.some.inj hl)
    rw [covered_eq_cov, hf.len]
    exact Nat.min_le_right _ _
  · exact h.accepts hf hd hws hN nofun

/-- full-visit kernels never stop the iterator, hence `hit := fun _ => false` -/
theorem run_accepts_full (xs : List Val) (cs : List Nat) (hne : cs ≠ []) (hpos : ∀ c ∈ cs, 0 < c)
    (sched : List Nat)
    (hd : AllDone (run (init (ofList xs) (some xs.length) (fun _ => false) cs) sched)) :
    (execOf (run (init (ofList xs) (some xs.length) (fun _ => false) cs) sched)).Accepts xs := by
  have h := run_accepts_find (ofList xs) (some xs.length) (fun _ => false) cs hne hpos sched hd
    xs.length (Or.inl rfl)
  rw [slice_ofList] at h
  rcases h.covers with h4 | ⟨x, _, hx⟩
  · have := h.accepts
    rwa [List.take_of_length_le h4] at this
  · cases hx

theorem run_seen_prefix (src : Nat → Val) (len : Option Nat) (hit : Val → Bool) (cs : List Nat)
    (hpos : ∀ c ∈ cs, 0 < c) (sched : List Nat) (t : Nat) (w : Worker)
    (hw : (run (init src len hit cs) sched).ws[t]? = some w) :
    w.seen <+: elemsOf (run (init src len hit cs) sched).log t := by
  have hinv := run_inv _ sched (init_inv src len hit cs hpos)
  rw [(hinv.ws t w hw).own, List.append_assoc]
  exact List.prefix_append _ _

/-- non-vacuity: worker 1 pulls the first chunk, worker 0 finds the hit (13, at index 3) in a later
    chunk and stops the iterator, worker 2 never gets anything -/
example : AllDone (run (init (ofList [10, 11, 12, 13, 14, 15, 16]) (some 7) (· == 13) [2, 2, 5])
    [1, 0, 1, 0, 0, 0, 1, 1, 1, 2, 0, 1, 2]) := by
  decide

end Run
end OrxPar
