/- Logged streams (`Model/Stream.lean`): values and events of the std adaptors.  Every adaptor
   distributes over `append`, hence over the per-element streams of a pipeline (`bindList`); the
   events of a stage-`k` adaptor on `s` are `s.ownLog k`, from which the multiset statement (C05),
   the per-stage order (C09) and the stage ids of the events all come. -/
import OrxPar.Model.Terminals
namespace OrxPar

theorem Prod.vals_append (s t : Prod) : (s.append t).vals = s.vals ++ t.vals := by
  induction s with
  | nil => rfl
  | emit e v r ih => exact congrArg (v :: ·) ih
  | skip e r ih => exact ih

theorem Prod.log_append (s t : Prod) : (s.append t).log = s.log ++ t.log := by
  induction s with
  | nil => rfl
  | emit e v r ih | skip e r ih =>
    exact (congrArg (e ++ ·) ih).trans (List.append_assoc e r.log t.log).symm

theorem Prod.vals_ofList (xs : List Val) : (Prod.ofList xs).vals = xs := by
  induction xs with
  | nil => rfl
  | cons x xs ih => exact congrArg (x :: ·) ih

theorem Prod.log_ofList (xs : List Val) : (Prod.ofList xs).log = [] := by
  induction xs with
  | nil => rfl
  | cons x xs ih => exact ih

theorem Prod.vals_ofCall (e : List Event) (ys : List Val) : (Prod.ofCall e ys).vals = ys := by
  cases ys with
  | nil => rfl
  | cons y ys => exact congrArg (y :: ·) (Prod.vals_ofList ys)

theorem Prod.log_ofCall (e : List Event) (ys : List Val) : (Prod.ofCall e ys).log = e := by
  cases ys with
  | nil => exact List.append_nil e
  | cons y ys => exact (congrArg (e ++ ·) (Prod.log_ofList ys)).trans (List.append_nil e)

theorem Prod.vals_filterMapW (h : Val → W (Option Val)) (s : Prod) :
    (s.filterMapW h).vals = s.vals.filterMap (pv h) := by
  induction s with
  | nil => rfl
  | emit e v r ih =>
    cases hv : (h v).val <;> simp [Prod.filterMapW, Prod.vals, ih, pv, hv]
  | skip e r ih => exact ih

/-- `map` and `filter` are `filter_map`s -/
def someW (m : Val → W Val) (v : Val) : W (Option Val) := ⟨some (m v).val, (m v).log⟩

def guardW (p : Val → W Bool) (v : Val) : W (Option Val) :=
  ⟨if (p v).val then some v else none, (p v).log⟩

theorem Prod.mapW_eq (m : Val → W Val) (s : Prod) : s.mapW m = s.filterMapW (someW m) := by
  induction s with
  | nil => rfl
  | emit e v r ih => exact congrArg (Prod.emit _ _) ih
  | skip e r ih => exact congrArg (Prod.skip e) ih

theorem Prod.filterW_eq (p : Val → W Bool) (s : Prod) : s.filterW p = s.filterMapW (guardW p) := by
  induction s with
  | nil => rfl
  | emit e v r ih => cases h : (p v).val <;> simp [Prod.filterW, Prod.filterMapW, guardW, ih, h]
  | skip e r ih => exact congrArg (Prod.skip e) ih

theorem Prod.vals_mapW (m : Val → W Val) (s : Prod) : (s.mapW m).vals = s.vals.map (pv m) := by
  rw [Prod.mapW_eq, Prod.vals_filterMapW]
  exact congrFun List.filterMap_eq_map _

theorem Prod.vals_filterW (p : Val → W Bool) (s : Prod) : (s.filterW p).vals = s.vals.filter (pv p) := by
  rw [Prod.filterW_eq, Prod.vals_filterMapW]
  exact congrFun List.filterMap_eq_filter _

theorem Prod.vals_prefixLog (e : List Event) (s : Prod) : (s.prefixLog e).vals = s.vals := by
  cases s with
  | nil => cases e <;> rfl
  | emit e' v r | skip e' r => rfl

theorem Prod.log_prefixLog (e : List Event) (s : Prod) : (s.prefixLog e).log = e ++ s.log := by
  cases s with
  | nil => cases e <;> rfl
  | emit e' v r | skip e' r => exact List.append_assoc ..

theorem Prod.vals_flatMapW (g : Val → Prod) (s : Prod) :
    (s.flatMapW g).vals = s.vals.flatMap (pvs g) := by
  induction s with
  | nil => rfl
  | emit e v r ih =>
    simp only [Prod.flatMapW, Prod.vals, List.flatMap_cons, Prod.vals_append, Prod.vals_prefixLog, ih, pvs]
  | skip e r ih => exact ih

theorem Prod.vals_bindList (xs : List Val) (g : Val → Prod) :
    (Prod.bindList xs g).vals = xs.flatMap (pvs g) := by
  induction xs with
  | nil => rfl
  | cons x xs ih => exact (Prod.vals_append ..).trans (congrArg (pvs g x ++ ·) ih)

theorem Prod.log_bindList (xs : List Val) (g : Val → Prod) :
    (Prod.bindList xs g).log = xs.flatMap (fun x => (g x).log) := by
  induction xs with
  | nil => rfl
  | cons x xs ih => exact (Prod.log_append ..).trans (congrArg ((g x).log ++ ·) ih)

theorem pv_callW {β : Type} (k : Nat) (f : Val → β) : pv (callW k f) = f := rfl

theorem pvs_callFlat (k : Nat) (g : Val → List Val) : pvs (Par.callFlat k g) = g := by
  funext x; exact Prod.vals_ofCall [⟨k, x⟩] (g x)

theorem Op.applySeq_vals (op : Op) (s : Prod) : (op.applySeq s).vals = op.applyVals s.vals := by
  cases op with
  | map k f => exact Prod.vals_mapW _ s
  | filter k p => exact Prod.vals_filterW _ s
  | flatMap k g => exact (Prod.vals_flatMapW _ s).trans (congrArg s.vals.flatMap (pvs_callFlat k g))
  | filterMap k h => exact Prod.vals_filterMapW _ s
  | _ => rfl

theorem seqStream_vals (src : List Val) (ops : List Op) : (seqStream src ops).vals = seqVals src ops :=
  List.foldl_rel (f := Op.applySeq) (g := Op.applyVals) (r := fun S xs => S.vals = xs)
    (Prod.vals_ofList src) fun op _ S xs h => by rw [Op.applySeq_vals, h]

theorem Prod.append_nil (s : Prod) : s.append .nil = s := by
  induction s with
  | nil => rfl
  | emit e v r ih => exact congrArg (Prod.emit e v) ih
  | skip e r ih => exact congrArg (Prod.skip e) ih

theorem Prod.append_assoc (s t u : Prod) : (s.append t).append u = s.append (t.append u) := by
  induction s with
  | nil => rfl
  | emit e v r ih => exact congrArg (Prod.emit e v) ih
  | skip e r ih => exact congrArg (Prod.skip e) ih

theorem Prod.filterMapW_append (h : Val → W (Option Val)) (s t : Prod) :
    (s.append t).filterMapW h = (s.filterMapW h).append (t.filterMapW h) := by
  induction s with
  | nil => rfl
  | emit e v r ih => cases hv : (h v).val <;> simp [Prod.append, Prod.filterMapW, ih, hv]
  | skip e r ih => exact congrArg (Prod.skip e) ih

theorem Prod.mapW_append (m : Val → W Val) (s t : Prod) :
    (s.append t).mapW m = (s.mapW m).append (t.mapW m) := by
  rw [Prod.mapW_eq, Prod.mapW_eq, Prod.mapW_eq, Prod.filterMapW_append]

theorem Prod.filterW_append (p : Val → W Bool) (s t : Prod) :
    (s.append t).filterW p = (s.filterW p).append (t.filterW p) := by
  rw [Prod.filterW_eq, Prod.filterW_eq, Prod.filterW_eq, Prod.filterMapW_append]

theorem Prod.flatMapW_append (g : Val → Prod) (s t : Prod) :
    (s.append t).flatMapW g = (s.flatMapW g).append (t.flatMapW g) := by
  induction s with
  | nil => rfl
  | emit e v r ih => exact (congrArg (Prod.append _) ih).trans (Prod.append_assoc ..).symm
  | skip e r ih => exact congrArg (Prod.skip e) ih

theorem Prod.bindList_hom (F : Prod → Prod) (h0 : F .nil = .nil)
    (happ : ∀ s t, F (s.append t) = (F s).append (F t)) (xs : List Val) (g : Val → Prod) :
    F (Prod.bindList xs g) = Prod.bindList xs fun x => F (g x) := by
  induction xs with
  | nil => exact h0
  | cons x xs ih => exact (happ _ _).trans (congrArg _ ih)

theorem Prod.filterW_bindList (p : Val → W Bool) (xs : List Val) (g : Val → Prod) :
    (Prod.bindList xs g).filterW p = Prod.bindList xs (fun x => (g x).filterW p) :=
  Prod.bindList_hom _ rfl (Prod.filterW_append p) xs g

theorem Op.applySeq_bindList (op : Op) (xs : List Val) (g : Val → Prod) :
    op.applySeq (Prod.bindList xs g) = Prod.bindList xs (fun x => op.applySeq (g x)) := by
  cases op with
  | map k f => exact Prod.bindList_hom _ rfl (Prod.mapW_append _) xs g
  | filter k p => exact Prod.filterW_bindList _ xs g
  | flatMap k f => exact Prod.bindList_hom _ rfl (Prod.flatMapW_append _) xs g
  | filterMap k h => exact Prod.bindList_hom _ rfl (Prod.filterMapW_append _) xs g
  | _ => rfl

theorem Prod.bindList_single (xs : List Val) : Prod.bindList xs Prod.single = Prod.ofList xs := by
  induction xs with
  | nil => rfl
  | cons x xs ih => exact congrArg (Prod.emit [] x) ih

theorem Prod.prefixLog_ofCall (e e' : List Event) (ys : List Val) :
    (Prod.ofCall e' ys).prefixLog e = Prod.ofCall (e ++ e') ys := by
  cases ys <;> rfl

def Op.stageId? : Op → Option Nat
  | .map k _ | .filter k _ | .flatMap k _ | .filterMap k _ => some k
  | _ => none

def Op.stage? : Op → Option Nat
  | .map k _ | .filter k _ | .flatMap k _ | .filterMap k _ => some k
  | _ => none

/-- one function under two names: `C04_for_each` is stated with `stage?`, `C09_stage_order` and
    the lemmas on `ownLog` with `stageId?` -/
theorem Op.stage?_eq (op : Op) : op.stage? = op.stageId? := rfl

def Prod.ownLog (k : Nat) : Prod → List Event
  | .nil => []
  | .emit e v r => e ++ ⟨k, v⟩ :: ownLog k r
  | .skip e r => e ++ ownLog k r

theorem Prod.log_filterMapW_call (k : Nat) (f : Val → Option Val) (s : Prod) :
    (s.filterMapW (callW k f)).log = s.ownLog k := by
  induction s with
  | nil => rfl
  | emit e v r ih =>
    cases h : f v <;> simp [Prod.filterMapW, Prod.log, Prod.ownLog, callW, ih, h]
  | skip e r ih => exact congrArg (e ++ ·) ih

theorem Prod.log_mapW_call (k : Nat) (f : Val → Val) (s : Prod) :
    (s.mapW (callW k f)).log = s.ownLog k :=
  (congrArg Prod.log (Prod.mapW_eq _ s)).trans (Prod.log_filterMapW_call k (fun v => some (f v)) s)

theorem Prod.log_filterW_call (k : Nat) (f : Val → Bool) (s : Prod) :
    (s.filterW (callW k f)).log = s.ownLog k :=
  (congrArg Prod.log (Prod.filterW_eq _ s)).trans
    (Prod.log_filterMapW_call k (fun v => if f v then some v else none) s)

theorem Prod.log_flatMapW_call (k : Nat) (g : Val → List Val) (s : Prod) :
    (s.flatMapW (Par.callFlat k g)).log = s.ownLog k := by
  induction s with
  | nil => rfl
  | emit e v r ih =>
    rw [Prod.flatMapW, Prod.log_append, Prod.log_prefixLog, Par.callFlat, Prod.log_ofCall, ih]
    exact List.append_assoc ..
  | skip e r ih => exact congrArg (e ++ ·) ih

theorem Op.applySeq_log_own (op : Op) (k : Nat) (h : op.stageId? = some k) (s : Prod) :
    (op.applySeq s).log = s.ownLog k := by
  cases op <;> cases h
  · exact Prod.log_mapW_call _ _ s
  · exact Prod.log_filterW_call _ _ s
  · exact Prod.log_flatMapW_call _ _ s
  · exact Prod.log_filterMapW_call _ _ s

theorem Op.applySeq_setter (op : Op) (h : op.stageId? = none) (s : Prod) : op.applySeq s = s := by
  cases op with
  | numThreads v | chunkSize v => rfl
  | _ => cases h

theorem Prod.ownLog_ofList (k : Nat) (xs : List Val) :
    (Prod.ofList xs).ownLog k = xs.map (Event.mk k) := by
  induction xs with
  | nil => rfl
  | cons x xs ih => simp [Prod.ofList, Prod.ownLog, ih]

theorem Prod.ownLog_perm (k : Nat) (s : Prod) :
    (s.ownLog k).Perm (s.log ++ s.vals.map (Event.mk k)) := by
  induction s with
  | nil => exact .refl _
  | emit e v r ih =>
    simp only [Prod.ownLog, Prod.log, Prod.vals, List.map_cons, List.append_assoc]
    exact ((ih.cons _).trans List.perm_middle.symm).append_left e
  | skip e r ih =>
    simp only [Prod.ownLog, Prod.log, Prod.vals, List.append_assoc]
    exact ih.append_left e

theorem filter_stage_map (k k' : Nat) (h : k' ≠ k) (xs : List Val) :
    (xs.map (Event.mk k)).filter (·.stage == k') = [] := by
  rw [List.filter_eq_nil_iff]
  intro e he
  obtain ⟨x, _, rfl⟩ := List.mem_map.1 he
  simpa using fun e => h e.symm

theorem Prod.ownLog_filter (k k' : Nat) (s : Prod) (h : s.log.filter (·.stage == k) = []) :
    (s.ownLog k).filter (·.stage == k')
      = s.log.filter (·.stage == k') ++ (s.vals.map (Event.mk k)).filter (·.stage == k') := by
  induction s with
  | nil => rfl
  | emit e v r ih =>
    simp only [Prod.log, List.filter_append, List.append_eq_nil_iff] at h
    simp only [Prod.ownLog, Prod.log, Prod.vals, List.map_cons, List.filter_append,
      List.filter_cons, ih h.2, List.append_assoc]
    -- a new call `⟨k, v⟩` stands before the events of `r` on the left and after them on the right:
    -- this matters only if it passes the filter (`k = k'`), and then `r` has no such events (`h`)
    by_cases hk : k = k'
    · subst hk; rw [h.2]; rfl
    · rw [if_neg (mt beq_iff_eq.1 hk), if_neg (mt beq_iff_eq.1 hk)]
  | skip e r ih =>
    simp only [Prod.log, List.filter_append, List.append_eq_nil_iff] at h
    simp only [Prod.ownLog, Prod.log, Prod.vals, List.filter_append, ih h.2, List.append_assoc]

theorem Op.applySeq_log_perm (op : Op) (s : Prod) :
    (op.applySeq s).log.Perm (s.log ++ (op.applySeq (Prod.ofList s.vals)).log) := by
  cases h : op.stageId? with
  | none => simp [Op.applySeq_setter op h, Prod.log_ofList]
  | some k =>
    rw [Op.applySeq_log_own op k h, Op.applySeq_log_own op k h, Prod.ownLog_ofList]
    exact Prod.ownLog_perm k s

theorem Prod.mapW_call_args (k : Nat) (g : Val → Val) (S : Prod)
    (hfresh : ∀ e ∈ S.log, e.stage ≠ k) :
    ((S.mapW (callW k g)).log.filter (·.stage == k)).map (·.arg) = S.vals := by
  have h0 : S.log.filter (·.stage == k) = [] :=
    List.filter_eq_nil_iff.2 fun x hx => mt beq_iff_eq.1 (hfresh x hx)
  have h1 : (S.vals.map (Event.mk k)).filter (·.stage == k) = S.vals.map (Event.mk k) :=
    List.filter_eq_self.2 fun e he => by
      obtain ⟨x, _, rfl⟩ := List.mem_map.1 he
      exact beq_iff_eq.2 rfl
  rw [Prod.log_mapW_call, Prod.ownLog_filter k k S h0, h0, h1, List.nil_append, List.map_map]
  exact List.map_id _

theorem Op.applySeq_log_stage (op : Op) (S : Prod) :
    ∀ e ∈ (op.applySeq S).log, e ∈ S.log ∨ op.stage? = some e.stage := by
  intro e he
  cases h : op.stageId? with
  | none => rw [Op.applySeq_setter op h] at he; exact Or.inl he
  | some k =>
    rw [Op.applySeq_log_own op k h, (Prod.ownLog_perm k S).mem_iff, List.mem_append] at he
    refine he.imp_right fun he => ?_
    obtain ⟨x, _, rfl⟩ := List.mem_map.1 he
    exact op.stage?_eq.trans h

theorem seqStream_log_stages (src : List Val) (ops : List Op) :
    ∀ e ∈ (seqStream src ops).log, ∃ op ∈ ops, op.stage? = some e.stage :=
  List.foldlRecOn ops Op.applySeq (motive := fun S => ∀ e ∈ S.log, ∃ op ∈ ops, op.stage? = some e.stage)
    (fun e he => by rw [Prod.log_ofList] at he; cases he)
    fun S ih op hop e he => (Op.applySeq_log_stage op S e he).elim (ih e) fun h => ⟨op, hop, h⟩

end OrxPar
