/- Count, reduce and unordered-collect kernels.  The map and filter-map tasks are the flat-map
   task on lists of length one resp. at most one (`…Task_eq`); a flat-map worker's result is a
   function of `(elems chunks).flatMap G`, `G x` the survivors of one source element, and
   `Exec.Accepts.regroup` puts the workers together. -/
import OrxPar.Lemmas.Reduce
namespace OrxPar
open K

theorem map_filter_eq_flatMap (m : Val → Val) (f : Val → Bool) (l : List Val) :
    (l.map m).filter f = l.flatMap fun x => [m x].filter f := by
  rw [List.map_eq_flatMap, List.filter_flatMap]

theorem filterMap_eq_flatMap {α β : Type} (g : α → Option β) (l : List α) :
    l.filterMap g = l.flatMap fun a => (g a).toList := by
  induction l with
  | nil => rfl
  | cons a l ih => rw [List.flatMap_cons, ← ih, List.filterMap_cons]; cases g a <;> rfl

theorem fmSurv_toList (fm : Val → Option Val) (f : Val → Bool) (x : Val) :
    (fmSurv fm f x).toList = (fm x).toList.filter f := by
  unfold fmSurv
  cases fm x with
  | none => rfl
  | some v => exact Option.toList_filter (o := some v)

theorem filterMap_fmSurv (fm : Val → Option Val) (f : Val → Bool) (l : List Val) :
    l.filterMap (fmSurv fm f) = l.flatMap fun x => (fm x).toList.filter f := by
  simp only [filterMap_eq_flatMap, fmSurv_toList]

/-- the form in which the `filtermap_*` kernels write `filter_map` + `filter` -/
theorem fm_filter_eq_flatMap (fm : Val → Option Val) (f : Val → Bool) (l : List Val) :
    (((l.map fm).filter (·.isSome)).filterMap id).filter f
      = l.flatMap fun x => (fm x).toList.filter f := by
  rw [List.filterMap_filter, List.filterMap_map, filterMap_eq_flatMap, List.filter_flatMap]
  exact flatMap_congr' fun x _ => by dsimp only [Function.comp]; cases fm x <;> rfl

theorem chunked_append (G : Val → List Val) (chunks : List Chunk) :
    chunks.foldl (fun a ch => a ++ ch.items.flatMap G) [] = (elems chunks).flatMap G := by
  rw [← List.flatMap_eq_foldl, elems, List.flatMap_assoc]

theorem chunked_count (G : Val → List Val) (chunks : List Chunk) :
    chunks.foldl (fun k ch => k + (ch.items.flatMap G).length) 0
      = ((elems chunks).flatMap G).length := by
  rw [elems, List.flatMap_assoc, List.length_flatMap, List.sum_eq_foldl_nat, List.foldl_map]

theorem count_correct (S : List Val → List Val) (h0 : S [] = [])
    (hS : ∀ a b, S (a ++ b) = S a ++ S b) (task : Nat → List Chunk → Nat)
    (ht : ∀ c chunks, task c chunks = (S (elems chunks)).length)
    (xs : List Val) (ex : Exec) (h : ex.Accepts xs) :
    (ex.reduce task (· + ·)).getD 0 = (S xs).length := by
  unfold Exec.reduce Exec.runMap
  rw [reduceList_getD Nat.zero_add, ← List.sum_eq_foldl_nat, hom_eq_flatMap S h0 hS xs,
    ← (h.regroup _).length_eq, List.length_flatMap]
  simp only [ht, hom_eq_flatMap S h0 hS (elems _)]

/-- the nested loop: skip to the first survivor, then fold over the rest (`C04_nested_loop`) -/
theorem filtermapFilCntOne_eq (fm : Val → Option Val) (f : Val → Bool) (l : List Val) :
    filtermapFilCntOne fm f l = (l.filterMap (fmSurv fm f)).length := by
  induction l with
  | nil => rfl
  | cons x xs ih =>
    rw [filtermapFilCntOne, List.filterMap_cons]
    cases fmSurv fm f x with
    | none => exact ih
    | some v =>
      -- `1 +` the number of survivors of `xs` is a fold from 1 that adds 1 per survivor
      -- (`foldl_add_const`); taken over `xs` itself (`foldl_filterMap`) it is the loop's
      rw [List.length_cons, Nat.add_comm, ← Nat.one_mul (List.length _), ← List.foldl_add_const,
        List.foldl_filterMap]
      dsimp only
      congr 1; funext acc y; cases fmSurv fm f y <;> rfl

theorem flatmapFilCnt_correct (g : Val → List Val) (f : Val → Bool) {xs : List Val} {ex : Exec}
    (h : ex.Accepts xs) :
    (ex.reduce (flatmapFilCntTask g f) (· + ·)).getD 0 = (xs.flatMap fun x => (g x).filter f).length :=
  List.filter_flatMap ▸ count_correct (fun l => (l.flatMap g).filter f) rfl
    (fun _ _ => by rw [List.flatMap_append, List.filter_append]) _ (fun c chunks => by
      simp only [flatmapFilCntTask, List.filter_flatMap, chunked_count, ite_self]) xs ex h

theorem mapFilCntTask_eq (m : Val → Val) (f : Val → Bool) :
    mapFilCntTask m f = flatmapFilCntTask (fun x => [m x]) f := by
  funext c chunks
  simp only [mapFilCntTask, flatmapFilCntTask, List.map_eq_flatMap]

theorem filtermapFilCntTask_eq (fm : Val → Option Val) (f : Val → Bool) :
    filtermapFilCntTask fm f = flatmapFilCntTask (fun x => (fm x).toList) f := by
  funext c chunks
  simp only [filtermapFilCntTask, flatmapFilCntTask, filtermapFilCntOne_eq, filterMap_fmSurv,
    fm_filter_eq_flatMap, List.filter_flatMap]

theorem flatmapFilColX_perm (g : Val → List Val) (f : Val → Bool) {xs : List Val} {ex : Exec}
    (h : ex.Accepts xs) :
    (appendFragments (ex.runMap (flatmapFilColXTask g f))).Perm (xs.flatMap fun x => (g x).filter f) := by
  unfold appendFragments Exec.runMap
  simp only [flatmapFilColXTask, List.filter_flatMap, chunked_append, ite_self, ← List.flatMap_def]
  exact h.regroup _

theorem mapFilColXTask_eq (m : Val → Val) (f : Val → Bool) :
    mapFilColXTask m f = flatmapFilColXTask (fun x => [m x]) f := by
  funext c chunks
  simp only [mapFilColXTask, flatmapFilColXTask, List.map_eq_flatMap]

theorem filtermapFilColXTask_eq (fm : Val → Option Val) (f : Val → Bool) :
    filtermapFilColXTask fm f = flatmapFilColXTask (fun x => (fm x).toList) f := by
  funext c chunks
  simp only [filtermapFilColXTask, flatmapFilColXTask, fm_filter_eq_flatMap, List.filter_flatMap]

theorem chunked_inv {op : Val → Val → Val} {P : List Val → Option Val → Prop}
    (hP : RedInv op P) (hseq : ∀ S, P S (reduceList op S)) (G : Val → List Val) (chunks : List Chunk) :
    P ((elems chunks).flatMap G)
      (chunks.foldl (fun acc ch => maybeReduce op acc (reduceList op (ch.items.flatMap G))) none) := by
  have := hP.foldl (fun ch : Chunk => ch.items.flatMap G) _ (fun ch => hseq _) chunks [] none
    hP.nil
  rwa [List.nil_append, ← List.flatMap_assoc] at this

theorem filtermapFilRedOne_eq (fm : Val → Option Val) (f : Val → Bool) (op : Val → Val → Val)
    (l : List Val) :
    filtermapFilRedOne fm f op l = reduceList op (l.filterMap (fmSurv fm f)) := by
  induction l with
  | nil => rfl
  | cons x xs ih =>
    simp only [filtermapFilRedOne, List.filterMap_cons]
    cases fmSurv fm f x with
    | none => exact ih
    | some v =>
      rw [reduceList, List.foldl_filterMap]
      dsimp only
      congr 2; funext acc y; cases fmSurv fm f y <;> rfl

theorem flatmapFilRed_inv {op : Val → Val → Val} {P : List Val → Option Val → Prop}
    (hP : RedInv op P) (hseq : ∀ S, P S (reduceList op S)) {xs : List Val} {ex : Exec}
    (h : ex.Accepts xs) (g : Val → List Val) (f : Val → Bool) :
    P (xs.flatMap fun x => (g x).filter f)
      ((ex.reduce (flatmapFilRedTask g f op) (maybeReduce op)).getD none) := by
  refine ex.reduce_inv hP _ (h.regroup _) _ fun t => ?_
  simp only [flatmapFilRedTask, List.filter_flatMap]
  split
  · exact hseq _
  · exact chunked_inv hP hseq _ _

theorem mapFilRedTask_eq (m : Val → Val) (f : Val → Bool) (op : Val → Val → Val) :
    mapFilRedTask m f op = flatmapFilRedTask (fun x => [m x]) f op := by
  funext c chunks
  simp only [mapFilRedTask, flatmapFilRedTask, List.map_eq_flatMap]

theorem filtermapFilRedTask_eq (fm : Val → Option Val) (f : Val → Bool) (op : Val → Val → Val) :
    filtermapFilRedTask fm f op = flatmapFilRedTask (fun x => (fm x).toList) f op := by
  funext c chunks
  simp only [filtermapFilRedTask, flatmapFilRedTask, filtermapFilRedOne_eq, filterMap_fmSurv,
    fm_filter_eq_flatMap, List.filter_flatMap]

end OrxPar
