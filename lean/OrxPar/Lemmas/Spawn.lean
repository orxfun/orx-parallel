/- The spawner of `Model/Spawn.lean`: one invariant rule for its two loops (`spRunFuel_inv`), from
   which the spawn bound and the `Exact` contract follow, and termination of the outer loop. -/
import OrxPar.Model.Spawn
import OrxPar.Lemmas.Settings
namespace OrxPar

/-! `I ws c`: a property of the workers spawned so far and the current chunk size.  It has to survive
a guarded spawn (`spawn`) and a chunk-size update (`next`); `calls` is irrelevant to it. -/

section inv
variable (r : Runner) (env : Nat → HasMore) (I : List Nat → Nat → Prop)
  (spawn : ∀ ws c, I ws c → ws.length < r.maxThreads - 1 → I (ws ++ [c]) c)
include spawn

theorem inner_inv (k : Nat) (s s' : Sp) (b : Bool) (hr : inner r env k s = (s', b))
    (h : I s.workers s.chunk) : I s'.workers s'.chunk := by
  fun_induction inner r env k s with
  | case1 s => cases hr; exact h
  | case2 k s hs ih => exact ih hr (spawn _ _ h (r.doSpawn_lt _ _ hs))   -- a spawn
  | case3 k s hs => cases hr; exact h                                    -- `break`

variable (next : ∀ ws c n h c', I ws c → r.nextChunkSize n h = some c' → I ws c')
include next

theorem outer_inv (lag f : Nat) (s s' : Sp) (hr : outer r lag env f s = some s')
    (h : I s.workers s.chunk) : I s'.workers s'.chunk := by
  have period := inner_inv r env I spawn lag
  fun_induction outer r lag env f s with
  | case1 => cases hr
  | case2 f s s1 he => cases hr; exact period s _ _ he h            -- the period broke off
  | case3 f s s1 he hc => cases hr; exact period s s1 _ he h        -- no next chunk size
  | case4 f s s1 he c hc ih => exact ih hr (next _ _ _ _ _ (period s s1 _ he h) hc)

/-- `Runner::run`: the last worker is spawned after the loop, unconditionally -/
theorem spRunFuel_inv (lag fuel : Nat) (s : Sp) (h0 : I [] r.chunk.inner)
    (hr : spRunFuel r lag env fuel = some s) : ∃ ws c, I ws c ∧ s.workers = ws ++ [c] := by
  obtain ⟨s0, ho, rfl⟩ := Option.map_eq_some_iff.1 hr
  exact ⟨_, _, outer_inv r env I spawn next lag fuel _ s0 ho h0, rfl⟩

end inv

/-- C08 (spawn bound): for any stream of `has_more()` observations, i.e. whatever the workers'
    progress looks like to the spawning thread -/
theorem spawn_bound (r : Runner) (lag) (env) (fuel) (s : Sp) (hm : 1 ≤ r.maxThreads)
    (hr : spRunFuel r lag env fuel = some s) : s.workers.length ≤ r.maxThreads := by
  obtain ⟨ws, c, h, e⟩ := spRunFuel_inv r env (fun ws _ => ws.length ≤ r.maxThreads - 1)
    (fun _ _ _ h => Nat.le_trans (Nat.le_of_eq List.length_append) h) (fun _ _ _ _ _ h _ => h)
    lag fuel s (Nat.zero_le _) hr
  rw [e, List.length_append]
  exact Nat.add_le_of_le_sub hm h

/-- C11 (workers): under `Exact c` every worker ever spawned is handed `c` -/
theorem workers_exact (r : Runner) (lag) (env) (fuel) (c : Nat) (hc : r.chunk = .exact c) (s : Sp)
    (hr : spRunFuel r lag env fuel = some s) : ∀ w ∈ s.workers, w = c := by
  have snoc : ∀ ws c', c' = c → (∀ w ∈ ws, w = c) → ∀ w ∈ ws ++ [c'], w = c := fun ws c' h1 h2 w hw =>
    (List.mem_append.1 hw).elim (h2 w) fun h => (List.eq_of_mem_singleton h).trans h1
  obtain ⟨ws, c', ⟨h1, h2⟩, e⟩ := spRunFuel_inv r env (fun ws c' => c' = c ∧ ∀ w ∈ ws, w = c)
    (fun ws c' h _ => ⟨h.1, snoc ws c' h.1 h.2⟩)
    (fun _ _ n h x hI hx => ⟨(r.nextChunkSize_some n h x hx).2.2 c hc, hI.2⟩)
    lag fuel s ⟨congrArg Resolved.inner hc, nofun⟩ hr
  rw [e]
  exact snoc ws c' h1 h2

theorem inner_progress (r : Runner) (env) (k : Nat) (s s' : Sp)
    (hr : inner r env k s = (s', false)) : s'.workers.length = s.workers.length + k := by
  fun_induction inner r env k s with
  | case1 s => cases hr; rfl
  | case2 k s hs ih =>
    rw [ih hr, List.length_append, List.length_singleton, Nat.add_assoc, Nat.add_comm 1]
  | case3 k s hs => cases hr    -- `break`: the flag is `true`

/-- at most `maxThreads` periods when `lag ≥ 1`, so `fuel = maxThreads + 1` always suffices: every
    period that goes on has added a worker, and going on needs a free thread -/
theorem outer_terminates (r : Runner) (lag) (hl : 1 ≤ lag) (env) (f : Nat) (s : Sp)
    (hf : r.maxThreads - 1 - s.workers.length < f) : (outer r lag env f s).isSome := by
  fun_induction outer r lag env f s with
  | case1 => exact absurd hf (Nat.not_lt_zero _)
  | case2 | case3 => rfl
  | case4 f s s1 he c hc ih =>
    have hlt : s.workers.length < s1.workers.length :=
      inner_progress r env lag s s1 he ▸ Nat.lt_add_of_pos_right hl
    exact ih (Nat.lt_of_lt_of_le
      (Nat.sub_lt_sub_left (Nat.lt_trans hlt (r.nextChunkSize_some _ _ c hc).1) hlt)
      (Nat.le_of_lt_succ hf))

theorem spRun_isSome (r : Runner) (lag) (hl : 1 ≤ lag) (env) : (spRun r lag env).isSome := by
  unfold spRun spRunFuel
  rw [Option.isSome_map]
  exact outer_terminates r lag hl env _ _
    (Nat.lt_succ_of_le (Nat.le_trans (Nat.sub_le _ _) (Nat.sub_le _ _)))

end OrxPar
