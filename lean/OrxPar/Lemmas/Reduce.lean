/- Reductions over the workers' partial results: an invariant relating the survivors seen so
   far and the partial result; its two instances (associative-commutative operators, selection
   operators). -/
import OrxPar.Lemmas.Regroup
namespace OrxPar
open K

/-- `P S r`: `r` is an admissible partial result for the survivors `S`.  What a property of a
    reduce-type terminal has to provide to hold under every accepted execution. -/
structure RedInv {α : Type} (op : α → α → α) (P : List α → Option α → Prop) : Prop where
  nil : P [] none
  /-- the results of two chunks, or of two workers, merged by `maybe_reduce` -/
  app : ∀ S₁ S₂ r₁ r₂, P S₁ r₁ → P S₂ r₂ → P (S₁ ++ S₂) (maybeReduce op r₁ r₂)
  /-- the survivors matter only up to order: what lets a regrouping (`Exec.Accepts.regroup`) through -/
  perm : ∀ S S' r, S.Perm S' → P S r → P S' r

theorem RedInv.foldl {α β : Type} {op : α → α → α} {P : List α → Option α → Prop}
    (hP : RedInv op P) (L : β → List α) (r : β → Option α) (hr : ∀ x, P (L x) (r x))
    (l : List β) (Sacc : List α) (acc : Option α) (hacc : P Sacc acc) :
    P (Sacc ++ l.flatMap L) (l.foldl (fun a x => maybeReduce op a (r x)) acc) := by
  induction l generalizing Sacc acc with
  | nil => simpa using hacc
  | cons x xs ih =>
    simp only [List.flatMap_cons, List.foldl_cons, ← List.append_assoc]
    exact ih _ _ (hP.app _ _ _ _ hacc (hr x))

theorem maybeReduce_none_left {α : Type} {op : α → α → α} (r : Option α) :
    maybeReduce op none r = r := by cases r <;> rfl

theorem maybeReduce_none_right {α : Type} {op : α → α → α} (r : Option α) :
    maybeReduce op r none = r := by cases r <;> rfl

theorem reduceList_getD {β : Type} {op : β → β → β} {e : β} (he : ∀ x, op e x = x) (l : List β) :
    (reduceList op l).getD e = l.foldl op e := by
  cases l with
  | nil => rfl
  | cons x xs => rw [List.foldl_cons, he]; rfl

/-- `Runner::reduce` with `maybe_reduce`: if every worker's result is admissible for what it
    yields (`S t`), the reduction of the results in spawn order is admissible for any permutation of
    what all yield -/
theorem Exec.reduce_inv {α : Type} {op : α → α → α} {P : List α → Option α → Prop}
    (hP : RedInv op P) (ex : Exec) (S : Nat → List α) {all : List α}
    (hperm : (ex.order.flatMap S).Perm all) (task : Nat → List Chunk → Option α)
    (htask : ∀ t, P (S t) (task (ex.cs t) (ex.chunksOf t))) :
    P all ((ex.reduce task (maybeReduce op)).getD none) := by
  unfold Exec.reduce Exec.runMap
  rw [reduceList_getD maybeReduce_none_left, List.foldl_map]
  exact hP.perm _ _ _ hperm (hP.foldl S _ htask ex.order [] none hP.nil)

theorem reduceList_append {α : Type} {op : α → α → α} (hA : ∀ a b c, op (op a b) c = op a (op b c))
    (l₁ l₂ : List α) :
    reduceList op (l₁ ++ l₂) = maybeReduce op (reduceList op l₁) (reduceList op l₂) := by
  cases l₁ with
  | nil => exact (maybeReduce_none_left _).symm
  | cons a as =>
    cases l₂ with
    | nil => rw [List.append_nil]; rfl
    | cons b bs =>
      have : Std.Associative op := ⟨hA⟩
      simp only [reduceList, maybeReduce, List.cons_append, List.foldl_append, List.foldl_cons]
      rw [List.foldl_assoc]

theorem reduceList_perm {α : Type} {op : α → α → α} (hA : ∀ a b c, op (op a b) c = op a (op b c))
    (hC : ∀ a b, op a b = op b a) {l₁ l₂ : List α} (h : l₁.Perm l₂) :
    reduceList op l₁ = reduceList op l₂ := by
  induction h with
  | nil => rfl
  | cons x _ ih =>
    have e : ∀ l, reduceList op (x :: l) = maybeReduce op (some x) (reduceList op l) :=
      fun l => reduceList_append hA [x] l
    rw [e, e, ih]
  | swap x y l =>
    simp only [reduceList, List.foldl_cons]
    rw [hC y x]
  | trans _ _ ih₁ ih₂ => rw [ih₁, ih₂]

theorem redInv_ac {α : Type} {op : α → α → α} (hA : ∀ a b c, op (op a b) c = op a (op b c))
    (hC : ∀ a b, op a b = op b a) : RedInv op (fun S r => r = reduceList op S) where
  nil := rfl
  app := by
    intro S₁ S₂ r₁ r₂ h₁ h₂
    rw [h₁, h₂, reduceList_append hA]
  perm := by
    intro S S' r hp h
    rw [h]; exact reduceList_perm hA hC hp

/-- no commutativity or associativity is assumed: on a tie `op` may return either argument -/
structure IsSel {α : Type} (le : α → α → Prop) (op : α → α → α) : Prop where
  refl : ∀ a, le a a
  trans : ∀ a b c, le a b → le b c → le a c
  /-- `op` returns one of its arguments, and that one is `le` the other -/
  sel : ∀ a b, op a b = a ∧ le a b ∨ op a b = b ∧ le b a

def LeastOf {α : Type} (le : α → α → Prop) (S : List α) (r : Option α) : Prop :=
  (S = [] ∧ r = none) ∨ ∃ v, r = some v ∧ v ∈ S ∧ ∀ y ∈ S, le v y

/-- `LeastOf` for `key a ≤ key b` -/
def IsMinOf (key : Val → Nat) (S : List Val) (r : Option Val) : Prop :=
  (S = [] ∧ r = none) ∨ ∃ v, r = some v ∧ v ∈ S ∧ ∀ y ∈ S, key v ≤ key y

section
variable {α : Type} {le : α → α → Prop} {op : α → α → α}

theorem LeastOf.perm {S S' : List α} {r : Option α} (hp : S.Perm S') (h : LeastOf le S r) :
    LeastOf le S' r := by
  rcases h with ⟨hS, hr⟩ | ⟨v, hr, hv, hmin⟩
  · subst hS
    exact Or.inl ⟨hp.nil_eq.symm, hr⟩
  · exact Or.inr ⟨v, hr, hp.mem_iff.1 hv, fun y hy => hmin y (hp.mem_iff.2 hy)⟩

theorem LeastOf.app (hop : IsSel le op) (S₁ S₂ : List α) (r₁ r₂ : Option α)
    (h₁ : LeastOf le S₁ r₁) (h₂ : LeastOf le S₂ r₂) :
    LeastOf le (S₁ ++ S₂) (maybeReduce op r₁ r₂) := by
  rcases h₁ with ⟨hS₁, hr₁⟩ | ⟨v₁, hr₁, hv₁, hmin₁⟩
  · subst hS₁ hr₁
    rw [maybeReduce_none_left, List.nil_append]; exact h₂
  · rcases h₂ with ⟨hS₂, hr₂⟩ | ⟨v₂, hr₂, hv₂, hmin₂⟩
    · subst hS₂ hr₂
      rw [maybeReduce_none_right, List.append_nil]
      exact Or.inr ⟨v₁, hr₁, hv₁, hmin₁⟩
    · subst hr₁ hr₂
      show LeastOf le _ (some (op v₁ v₂))
      rcases hop.sel v₁ v₂ with ⟨e, h⟩ | ⟨e, h⟩ <;> rw [e]
      · exact Or.inr ⟨v₁, rfl, List.mem_append_left _ hv₁, fun y hy =>
          (List.mem_append.1 hy).elim (hmin₁ y) fun hy => hop.trans _ _ _ h (hmin₂ y hy)⟩
      · exact Or.inr ⟨v₂, rfl, List.mem_append_right _ hv₂, fun y hy =>
          (List.mem_append.1 hy).elim (fun hy => hop.trans _ _ _ h (hmin₁ y hy)) (hmin₂ y)⟩

theorem LeastOf.single (hop : IsSel le op) (x : α) : LeastOf le [x] (some x) :=
  Or.inr ⟨x, rfl, List.mem_singleton.2 rfl, fun _ hy => List.mem_singleton.1 hy ▸ hop.refl x⟩

theorem LeastOf.foldl (hop : IsSel le op) (l : List α) (S : List α) (v : α)
    (h : LeastOf le S (some v)) : LeastOf le (S ++ l) (some (l.foldl op v)) := by
  induction l generalizing S v with
  | nil => rwa [List.append_nil]
  | cons y ys ih =>
    have := ih (S ++ [y]) (op v y) (LeastOf.app hop S [y] _ _ h (LeastOf.single hop y))
    rwa [List.append_assoc] at this

theorem reduceList_select (hop : IsSel le op) (S : List α) : LeastOf le S (reduceList op S) := by
  cases S with
  | nil => exact Or.inl ⟨rfl, rfl⟩
  | cons x xs => exact LeastOf.foldl hop xs [x] x (LeastOf.single hop x)

theorem redInv_sel (hop : IsSel le op) : RedInv op (LeastOf le) where
  nil := Or.inl ⟨rfl, rfl⟩
  app := LeastOf.app hop
  perm := fun _ _ _ hp h => h.perm hp

theorem LeastOf.head? {S : List α} (hS : S.Pairwise le) (refl : ∀ a, le a a) :
    LeastOf le S S.head? := by
  cases S with
  | nil => exact Or.inl ⟨rfl, rfl⟩
  | cons a S =>
    exact Or.inr ⟨a, rfl, List.mem_cons_self, fun y hy =>
      (List.mem_cons.1 hy).elim (fun e => e ▸ refl a) (List.rel_of_pairwise_cons hS)⟩

theorem LeastOf.eq_head? {S : List α} {r : Option α} (hS : S.Pairwise fun a b => ¬ le b a)
    (h : LeastOf le S r) : r = S.head? := by
  rcases h with ⟨rfl, rfl⟩ | ⟨v, rfl, hv, hmin⟩
  · rfl
  · cases S with
    | nil => cases hv
    | cons a S =>
      rcases List.mem_cons.1 hv with rfl | hv
      · rfl
      · exact absurd (hmin a List.mem_cons_self) (List.rel_of_pairwise_cons hS hv)

end

/-- the fold with "keep the left argument if `keep x y`" returns the element `r` that nothing
    before it is kept against and that is kept against everything after it: the first, resp. last,
    extremal element (C09).  `keep` need only be transitive in the two ways `h1`, `h2` -/
theorem reduce_sel_spec (keep : Val → Val → Prop) [DecidableRel keep]
    (h1 : ∀ z a y, ¬ keep z a → ¬ keep a y → ¬ keep z y)
    (h2 : ∀ z a y, keep a z → ¬ keep a y → ¬ keep z y) (xs : List Val) (hne : xs ≠ []) :
    ∃ pre r post, xs = pre ++ r :: post ∧
      reduceList (fun x y => if keep x y then x else y) xs = some r ∧
      (∀ y ∈ pre, ¬ keep y r) ∧ (∀ y ∈ post, keep r y) := by
  cases xs with
  | nil => exact absurd rfl hne
  | cons a l =>
    show ∃ pre r post, a :: l = pre ++ r :: post ∧ some (l.foldl _ a) = some r ∧ _
    -- from the right: the element appended last either loses against `r` or replaces it
    rw [← l.reverse_reverse]
    generalize l.reverse = l'
    induction l' with
    | nil => exact ⟨[], a, [], rfl, rfl, nofun, nofun⟩
    | cons y l' ih =>
      obtain ⟨pre, r, post, heq, hr, hpre, hpost⟩ := ih
      rw [List.reverse_cons, List.foldl_append, ← List.cons_append, heq, Option.some.inj hr]
      by_cases h : keep r y
      · exact ⟨pre, r, post ++ [y], List.append_assoc pre (r :: post) [y], congrArg some (if_pos h), hpre, fun z hz =>
          (List.mem_append.1 hz).elim (hpost z) fun hz => List.mem_singleton.1 hz ▸ h⟩
      · refine ⟨pre ++ r :: post, y, [], rfl, congrArg some (if_neg h), fun z hz => ?_, nofun⟩
        rcases List.mem_append.1 hz with hz | hz
        · exact h1 z r y (hpre z hz) h
        · rcases List.mem_cons.1 hz with rfl | hz
          · exact h
          · exact h2 z r y (hpost z hz) h

end OrxPar
