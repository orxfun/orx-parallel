/- Events of whole computations under full-visit terminals: which closures run and how often
   (as a multiset, under every accepted execution), and in which order per stage. -/
import OrxPar.Lemmas.Chain
import OrxPar.Model.Accept
import OrxPar.Model.Logs
import OrxPar.Lemmas.Regroup
namespace OrxPar

theorem Par.parLog_perm (P : Par) (ex : Exec) (h : ex.Accepts P.src.items) :
    (P.parLog ex).Perm P.stream.log := by
  unfold Par.parLog Par.stream
  rw [Prod.log_bindList]
  exact h.regroup _

theorem Par.fullLog_perm (P : Par) (ex : Exec)
    (h : P.params.isSequential = true ∨ ex.Accepts P.src.items) :
    (P.fullLog ex).Perm P.stream.log := by
  unfold Par.fullLog
  split
  · exact .refl _
  · exact Par.parLog_perm P ex (h.resolve_left ‹_›)

theorem Terminal.pred?_of_full (t : Terminal) (hsc : t.isShortCircuit = false) : t.pred? = none := by
  cases t with
  | find | any | all | findIdx | first | firstIdx => cases hsc
  | _ => rfl

theorem Par.termLog_perm_full (P : Par) (ex : Exec) (t : Terminal) (hsc : t.isShortCircuit = false)
    (h : (P.forTerminal t).1.params.isSequential = true ∨ ex.Accepts (P.forTerminal t).1.src.items) :
    (P.termLog ex t).Perm (P.possibleLog t) := by
  have hp := t.pred?_of_full hsc
  simp only [Par.termLog, Par.possibleLog, hp, hsc]
  exact (Par.fullLog_perm _ ex h).append_left _

theorem Par.certain_eq_possible_full (P : Par) (t : Terminal) (hsc : t.isShortCircuit = false) :
    P.certainLog t = P.possibleLog t := by
  have hp := t.pred?_of_full hsc
  simp only [Par.certainLog, Par.possibleLog, hp, hsc]

/-- `ks`: the stage ids still to come -/
def Par.StageInv (acc : Par × List Event) (S : Prod) (ks : List Nat) : Prop :=
  acc.1.stream.vals = S.vals ∧
  (∀ k, (acc.2 ++ acc.1.stream.log).filter (·.stage == k) = S.log.filter (·.stage == k)) ∧
  (∀ k ∈ ks, S.log.filter (·.stage == k) = [])

theorem Par.StageInv_step (acc : Par × List Event) (S : Prod) (ks : List Nat) (op : Op) (k₀ : Nat)
    (hk : op.stageId? = some k₀) (hnk : k₀ ∉ ks) (h : Par.StageInv acc S (k₀ :: ks)) :
    Par.StageInv (Par.buildStep acc op) (op.applySeq S) ks := by
  obtain ⟨hv, hf, hn⟩ := h
  obtain ⟨T, hT, hTv, hTl⟩ := Par.buildStep_from acc op
  have hS0 := hn k₀ List.mem_cons_self
  have hT0 := hf k₀
  rw [hS0, ← hTl, List.filter_append, List.append_eq_nil_iff] at hT0
  unfold Par.StageInv
  rw [hT, Op.applySeq_vals, Op.applySeq_vals, hTv, hv, Op.applySeq_log_own op k₀ hk,
    Op.applySeq_log_own op k₀ hk]
  refine ⟨rfl, fun k => ?_, fun k hk' => ?_⟩
  · -- both sides become the stage-`k` events so far followed by the stage-`k₀` calls on `S.vals`,
    -- filtered by `k`
    rw [List.filter_append, Prod.ownLog_filter k₀ k T hT0.2, ← List.append_assoc,
      ← List.filter_append, hTl, hf k, hTv, hv, Prod.ownLog_filter k₀ k S hS0]
  · rw [Prod.ownLog_filter k₀ k S hS0, hn k (List.mem_cons_of_mem _ hk'),
      filter_stage_map k₀ k fun e => hnk (e ▸ hk')]
    rfl

theorem Par.StageInv_setter (acc : Par × List Event) (S : Prod) (ks : List Nat) (op : Op)
    (hk : op.stageId? = none) (h : Par.StageInv acc S ks) :
    Par.StageInv (Par.buildStep acc op) (op.applySeq S) ks := by
  obtain ⟨T, hT, hTv, hTl⟩ := Par.buildStep_from acc op
  unfold Par.StageInv
  rw [hT, op.applySeq_setter hk, op.applySeq_setter hk, hTl, hTv]
  exact h

theorem Par.StageInv_foldl (ops : List Op) (acc : Par × List Event) (S : Prod)
    (h : Par.StageInv acc S (ops.filterMap Op.stageId?)) (hd : (ops.filterMap Op.stageId?).Nodup)
    (k : Nat) :
    ((ops.foldl Par.buildStep acc).2 ++ (ops.foldl Par.buildStep acc).1.stream.log).filter
        (·.stage == k)
      = (ops.foldl Op.applySeq S).log.filter (·.stage == k) := by
  induction ops generalizing acc S with
  | nil => exact h.2.1 k
  | cons op ops ih =>
    cases hk : op.stageId? with
    | none =>
      rw [List.filterMap_cons_none hk] at h hd
      exact ih _ _ (Par.StageInv_setter acc S _ op hk h) hd
    | some k₀ =>
      rw [List.filterMap_cons_some hk] at h hd
      obtain ⟨hnk, hd⟩ := List.nodup_cons.1 hd
      exact ih _ _ (Par.StageInv_step acc S _ op k₀ hk hnk h) hd

end OrxPar
