/- The early-exit kernels: `minIdx` selects by source index, so among the workers' first hits
   the least source position wins, whichever worker holds it. -/
import OrxPar.Lemmas.Reduce
namespace OrxPar
open K

theorem minIdx_isSel : IsSel (fun a b : Nat × Val => a.1 ≤ b.1) minIdx where
  refl _ := Nat.le_refl _
  trans _ _ _ := Nat.le_trans
  sel a b := by
    unfold minIdx; split
    · exact .inr ⟨rfl, Nat.le_of_lt ‹_›⟩
    · exact .inl ⟨rfl, Nat.le_of_not_lt ‹_›⟩

theorem filterMap_idx_pairwise (φ : Nat × Val → Option (Nat × Val))
    (hφ : ∀ p r, φ p = some r → r.1 = p.1) {l : List (Nat × Val)}
    (hl : l.Pairwise fun a b => a.1 < b.1) : (l.filterMap φ).Pairwise fun a b => a.1 < b.1 := by
  rw [List.pairwise_filterMap]
  refine hl.imp ?_
  intro a b hab a' ha' b' hb'
  rw [hφ _ _ ha', hφ _ _ hb']
  exact hab

/-- `φ` keeps the index, so the hits are sorted too, and the first hit is their head -/
theorem findSome_leastOf (φ : Nat × Val → Option (Nat × Val))
    (hφ : ∀ p r, φ p = some r → r.1 = p.1) (l : List (Nat × Val))
    (hl : l.Pairwise fun a b => a.1 < b.1) :
    LeastOf (fun a b => a.1 ≤ b.1) (l.filterMap φ) (l.findSome? φ) :=
  List.head?_filterMap ▸ LeastOf.head? ((filterMap_idx_pairwise φ hφ hl).imp Nat.le_of_lt)
    fun _ => Nat.le_refl _

/-- A worker's elements are sorted by index, so its first hit is its least one; `minIdx` selects
    the least of these (`redInv_sel`), and in the assignment the least is the first. -/
theorem find_generic (φ : Nat × Val → Option (Nat × Val))
    (hφ : ∀ p r, φ p = some r → r.1 = p.1) {ex : Exec} {ys : List Val} (h : ex.Accepts ys) :
    (ex.reduce (fun _ chunks => (idxElems chunks).findSome? φ) (maybeReduce minIdx)).getD none
      = (idxElems ex.asg).findSome? φ := by
  have hpw : (idxElems ex.asg).Pairwise fun a b => a.1 < b.1 :=
    h.tiles.idxElems ▸ List.pairwise_map.2 (zipIdx_pairwise _ _)
  -- regrouping permutes the indexed elements, hence the hits (`filterMap φ`, moved under the
  -- `flatMap` over the workers)
  have key := ex.reduce_inv (redInv_sel minIdx_isSel) _
    (List.filterMap_flatMap ▸ (h.regroup_chunks _).filterMap φ)
    (fun _ chunks => (idxElems chunks).findSome? φ) fun t =>
      findSome_leastOf φ hφ _ (hpw.sublist (List.filter_sublist.flatMap _))
  exact (LeastOf.eq_head? ((filterMap_idx_pairwise φ hφ hpw).imp Nat.not_le_of_gt) key).trans
    List.head?_filterMap

theorem findSome_take {β : Type} (ψ : Val × Nat → Option β) (hit : Val → Bool)
    (hψ : ∀ q, hit q.1 = true → (ψ q).isSome) (xs : List Val) (n : Nat)
    (covers : xs.length ≤ n ∨ ∃ x ∈ xs.take n, hit x = true) :
    ((xs.take n).zipIdx 0).findSome? ψ = (xs.zipIdx 0).findSome? ψ := by
  rcases covers with h | ⟨x, hx, hh⟩
  · rw [List.take_of_length_le h]
  · obtain ⟨i, hi⟩ := List.mem_iff_getElem?.1 hx
    conv => rhs; rw [← List.take_append_drop n xs, List.zipIdx_append, List.findSome?_append]
    exact (Option.or_of_isSome (List.findSome?_isSome_iff.2
      ⟨(x, i), List.mk_mem_zipIdx_iff_getElem?.2 hi, hψ _ hh⟩)).symm

theorem flatmapFilFind_correct (g : Val → List Val) (f : Val → Bool) {xs : List Val} {ex : Exec}
    (h : ex.AcceptsFind xs fun x => (g x).any f) :
    (ex.reduce (flatmapFilFindTask g f) (maybeReduce minIdx)).getD none
      = (xs.zipIdx 0).findSome? fun p => ((g p.1).find? f).map fun v => (p.2, v) := by
  obtain ⟨n, hn⟩ := h
  have hφ : ∀ (p r : Nat × Val), ((g p.2).find? f).map (fun v => (p.1, v)) = some r → r.1 = p.1 := by
    intro p r hr
    obtain ⟨v, _, rfl⟩ := Option.map_eq_some_iff.1 hr
    rfl
  -- the least hit among the evaluated chunks, which tile a prefix that contains a hit or is all
  refine (find_generic _ hφ hn.accepts).trans ?_
  rw [hn.tiles.idxElems, List.findSome?_map]
  exact findSome_take _ (fun x => (g x).any f)
    (fun _ hq => Option.isSome_map.trans (List.isSome_find?.trans hq)) xs n hn.covers

theorem find?_toList_map {β : Type} (f : Val → Bool) (o : Option Val) (k : Val → β) :
    (o.toList.find? f).map k = match o with
      | none => none
      | some v => if f v then some (k v) else none := by
  cases o with
  | none => rfl
  | some v =>
    show ([v].find? f).map k = if f v then some (k v) else none
    rw [List.find?_singleton]; split <;> rfl

theorem seqMapFilFind_eq (m : Val → Val) (f : Val → Bool) (xs : List Val) :
    seqMapFilFind m f xs
      = (xs.zipIdx 0).findSome? fun p => ([m p.1].find? f).map fun v => (p.2, v) := by
  unfold seqMapFilFind
  rw [List.zipIdx_map, List.findSome?_map]
  congr 1; funext p
  exact (find?_toList_map f (some (m p.1)) _).symm

theorem seqFiltermapFilFind_eq (fm : Val → Option Val) (f : Val → Bool) (xs : List Val) :
    seqFiltermapFilFind fm f xs
      = (xs.zipIdx 0).findSome? fun p => ((fm p.1).toList.find? f).map fun v => (p.2, v) := by
  unfold seqFiltermapFilFind
  rw [List.zipIdx_map, List.findSome?_map]
  congr 1; funext p
  exact (find?_toList_map f (fm p.1) _).symm

theorem findSome_zipIdx_value (G : Val → List Val) (q : Val → Bool) (xs : List Val) (k : Nat) :
    ((xs.zipIdx k).findSome? fun p => ((G p.1).find? q).map fun v => (p.2, v)).map (·.2)
      = (xs.flatMap G).find? q := by
  rw [List.map_findSome?, List.find?_flatMap]
  conv => rhs; rw [← List.zipIdx_map_fst k xs, List.findSome?_map]
  congr 1; funext p
  exact (Option.map_map ..).trans Option.map_id'

theorem filtermapFilFindTask_eq (fm : Val → Option Val) (f : Val → Bool) :
    filtermapFilFindTask fm f = flatmapFilFindTask (fun x => (fm x).toList) f := by
  funext _ chunks
  unfold filtermapFilFindTask flatmapFilFindTask
  congr 1; funext p
  exact (find?_toList_map f (fm p.2) _).symm

/-- by definition the filter-map task for `fun x => some (m x)`, and `(some (m x)).toList` computes
    to `[m x]` -/
theorem mapFilFindTask_eq (m : Val → Val) (f : Val → Bool) :
    mapFilFindTask m f = flatmapFilFindTask (fun x => [m x]) f :=
  filtermapFilFindTask_eq (fun x => some (m x)) f

end OrxPar
