/- The settings arithmetic of `Model/Settings.lean`: `div_ceil` is the ceiling, every resolved chunk
   size is positive (so `validate` never fires and `Runner::new` succeeds), and what a successful
   `next_chunk_size` returns. -/
import OrxPar.Model.Settings
namespace OrxPar

theorem divCeil_eq (n d : Nat) : divCeil n d = n / d + if 0 < n % d then 1 else 0 := by
  rw [Nat.mod_def, Nat.mul_comm]; rfl

theorem divCeil_spec (n d : Nat) (hd : 0 < d) : n ≤ divCeil n d * d ∧ divCeil n d * d < n + d := by
  have h1 : n / d * d + n % d = n := Nat.div_add_mod' n d
  rw [divCeil_eq]
  by_cases hr : 0 < n % d
  · rw [if_pos hr, Nat.add_mul, Nat.one_mul]
    exact ⟨Nat.le_of_lt (Nat.lt_div_mul_add hd),
      Nat.add_lt_add_right (Nat.lt_of_lt_of_eq (Nat.lt_add_of_pos_right hr) h1) d⟩
  · rw [if_neg hr, Nat.add_zero]
    exact ⟨Nat.le_trans (Nat.le_of_eq h1.symm) (Nat.add_le_add_left (Nat.le_of_not_lt hr) _),
      Nat.lt_of_le_of_lt (Nat.div_mul_le_self n d) (Nat.lt_add_of_pos_right hd)⟩

theorem divCeil_pos (n d : Nat) (hn : 0 < n) (hd : 0 < d) : 0 < divCeil n d :=
  Nat.pos_of_mul_pos_right (Nat.lt_of_lt_of_le hn (divCeil_spec n d hd).1)

theorem divCeil_le (n d : Nat) (hd : 0 < d) : divCeil n d ≤ n :=
  -- `c * d < n + d ≤ (n + 1) * d`
  Nat.le_of_lt_succ (Nat.lt_of_mul_lt_mul_right (Nat.lt_of_lt_of_le (divCeil_spec n d hd).2
    (Nat.succ_mul n d ▸ Nat.add_le_add_right (Nat.le_mul_of_pos_right n hd) d)))

theorem findChunk_pos (k : Consts) (task : Task) (len nt : Nat) (chunk : Nat) (hc : 0 < chunk) :
    0 < findChunk k task len nt chunk := by
  fun_induction findChunk k task len nt chunk with
  | case1 | case2 | case3 => exact hc
  | case4 chunk _ _ _ h3 ih => exact ih (Nat.div_pos (Nat.lt_of_not_le h3) Nat.two_pos)

theorem findChunk_le (k : Consts) (task : Task) (len nt : Nat) (chunk : Nat) :
    findChunk k task len nt chunk ≤ chunk := by
  fun_induction findChunk k task len nt chunk with
  | case1 | case2 | case3 => exact Nat.le_refl _
  | case4 chunk _ _ _ h3 ih => exact Nat.le_trans ih (Nat.div_le_self _ _)

theorem autoChunkSize_pos (k : Consts) (hk : k.Admissible) (task) (len : Option Nat) (nt : Nat) :
    0 < autoChunkSize k task len nt := by
  fun_cases autoChunkSize k task len nt with
  | case1 | case2 => exact Nat.one_pos
  | case3 => exact findChunk_pos _ _ _ _ _ hk.2.1

theorem minChunkSize_pos (len : Option Nat) (nt c : Nat) (hnt : 0 < nt) (hc : 0 < c) :
    0 < minChunkSize len nt c := by
  fun_cases minChunkSize len nt c with
  | case1 | case4 => exact hc
  | case2 => exact Nat.one_pos
  | case3 l hl => -- rescaled to `⌈l / nt⌉`
    exact divCeil_pos _ _ (Nat.pos_of_ne_zero fun e => hl (e ▸ rfl)) hnt

/-- the chunk-size hypotheses carried by `NonZeroUsize` -/
def ChunkSize.WF : ChunkSize → Prop
  | .auto => True
  | .min c => 0 < c
  | .exact c => 0 < c

def NumThreads.WF : NumThreads → Prop
  | .auto => True
  | .max n => 0 < n

theorem ChunkSize.ofNat_wf (n : Nat) : (ChunkSize.ofNat n).WF := by
  cases n with
  | zero => exact trivial
  | succ n => exact Nat.succ_pos n

theorem NumThreads.ofNat_wf (n : Nat) : (NumThreads.ofNat n).WF := by
  cases n with
  | zero => exact trivial
  | succ n => exact Nat.succ_pos n

theorem calcChunkSizeRaw_pos (k : Consts) (hk : k.Admissible) (task) (len : Option Nat) (nt : Nat)
    (hnt : 0 < nt) (cs : ChunkSize) (hcs : cs.WF) :
    0 < (calcChunkSizeRaw k task len nt cs).inner := by
  cases cs with
  | auto => exact autoChunkSize_pos k hk task len nt
  | min c => exact minChunkSize_pos len nt c hnt hcs
  | exact c => exact hcs

/-- `validate` never fires -/
theorem calcChunkSize_eq_some (k : Consts) (hk : k.Admissible) (task) (len : Option Nat) (nt : Nat)
    (hnt : 0 < nt) (cs : ChunkSize) (hcs : cs.WF) :
    calcChunkSize k task len nt cs = some (calcChunkSizeRaw k task len nt cs) :=
  if_pos (calcChunkSizeRaw_pos k hk task len nt hnt cs hcs)

theorem calcNumThreads_le_max (k : Consts) (len : Option Nat) (n avail : Nat) :
    calcNumThreads k len (.max n) avail ≤ n :=
  Nat.le_trans (Nat.min_le_left _ _) (Nat.min_le_right _ _)

theorem calcNumThreads_le_avail (k : Consts) (len : Option Nat) (nt : NumThreads) (avail : Nat) :
    calcNumThreads k len nt avail ≤ avail := by
  unfold calcNumThreads
  cases nt <;> exact Nat.min_le_right _ _

theorem calcNumThreads_le_len (k : Consts) (len : Nat) (nt : NumThreads) (avail : Nat) :
    calcNumThreads k (some len) nt avail ≤ len := by
  unfold calcNumThreads
  cases nt with
  | auto => exact Nat.min_le_left _ _
  | max n => exact Nat.le_trans (Nat.min_le_left _ _) (Nat.min_le_left _ _)

/-- `Runner::new` succeeds -/
theorem mkRunner_eq (k : Consts) (hk : k.Admissible) (p : Params) (hcs : p.chunkSize.WF)
    (task : Task) (len : Option Nat) (avail : Nat) :
    mkRunner k p task len avail = some
      { inputLen := len, maxThreads := Nat.max (calcNumThreads k len p.numThreads avail) 1,
        chunk := calcChunkSizeRaw k task len (Nat.max (calcNumThreads k len p.numThreads avail) 1)
          p.chunkSize } :=
  congrArg (Option.map _)
    (calcChunkSize_eq_some k hk task len _ (Nat.le_max_right _ 1) p.chunkSize hcs)

namespace Runner

/-- the panics of `next_chunk_size`: a subtraction that underflows, a division by zero -/
theorem nextChunkSize_no_panic (r : Runner) (n : Nat) (h : HasMore) (hc : 0 < r.chunk.inner)
    (hrem : ∀ rem, h = .yes rem → rem ≤ r.inputLen.getD usizeMax) :
    r.nextChunkSizePanics n h = false := by
  revert hrem
  fun_cases Runner.nextChunkSizePanics r n h with
  | case4 rem x hx =>
    -- `Min(x)` after the first period: the one branch that subtracts and divides
    intro hrem
    exact Bool.or_eq_false_iff.2 ⟨decide_eq_false (Nat.not_lt.2 (hrem rem rfl)),
      beq_false_of_ne (Nat.ne_of_gt (hx ▸ hc :))⟩
  | _ => exact fun _ => rfl

theorem doSpawn_lt (r : Runner) (n : Nat) (h : HasMore) (hs : r.doSpawn n h = true) :
    n < r.maxThreads - 1 :=
  -- otherwise the `if` in `doSpawn` answers `false`
  Nat.lt_of_not_le fun hle => Bool.false_ne_true ((if_pos hle).symm.trans hs)

theorem nextChunkSize_some (r : Runner) (n : Nat) (h : HasMore) (x : Nat)
    (hx : r.nextChunkSize n h = some x) :
    n < r.maxThreads - 1 ∧ (∃ m, 0 < m ∧ x = m * r.chunk.inner) ∧
      ∀ c, r.chunk = .exact c → x = c := by
  have one : ∀ y, ∃ m, 0 < m ∧ y = m * y := fun y => ⟨1, Nat.one_pos, (Nat.one_mul y).symm⟩
  revert hx
  fun_cases Runner.nextChunkSize r n h with
  | case1 | case2 | case4 => exact nofun
  | case3 _ hlt =>
    -- `Maybe`: the resolved chunk
    rintro ⟨⟩
    exact ⟨Nat.lt_of_not_le hlt, one _, fun c hc => congrArg Resolved.inner hc⟩
  | case5 _ _ hlt y hy =>
    -- `Yes` under `Exact(y)`
    rintro ⟨⟩
    rw [hy]
    exact ⟨Nat.lt_of_not_le hlt, one _, fun c hc => Resolved.exact.inj hc⟩
  | case6 _ y hy hlt =>
    -- `Yes` under `Min(y)`, nothing spawned yet
    rintro ⟨⟩
    rw [hy]
    exact ⟨Nat.lt_of_not_le hlt, one _, nofun⟩
  | case7 _ y hy n _ _ _ hlt =>
    -- `Yes` under `Min(y)`, later: `max (done_per_thread / y) 1 * y`
    rintro ⟨⟩
    rw [hy]
    exact ⟨Nat.lt_of_not_le hlt, ⟨_, Nat.lt_of_lt_of_le Nat.one_pos (Nat.le_max_right _ _), rfl⟩,
      nofun⟩

theorem nextChunkSize_pos (r : Runner) (n : Nat) (h : HasMore) (hc : 0 < r.chunk.inner)
    (x : Nat) (hx : r.nextChunkSize n h = some x) : 0 < x := by
  obtain ⟨m, hm, rfl⟩ := (r.nextChunkSize_some n h x hx).2.1
  exact Nat.mul_pos hm hc

end Runner
end OrxPar
