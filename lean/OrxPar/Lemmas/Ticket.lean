/- The ticket protocol of `ConIterOfIter` (`Model/Ticket.lean`), for every interleaving: mutual
   exclusion and the index contract; completeness when nobody calls `skip_to_end`. -/
import OrxPar.Model.Ticket
namespace OrxPar
namespace Ticket

/-- every step that changes the state is one of these (`step_cases`), not conversely: `read` and `dry`
    leave out the guard `got < n && !dry` of `step`, and `out` (taking a ticket, giving up, releasing
    a handle that is already COMPLETED) keeps only what the invariants need: `tid` ends outside the
    handle and nothing but the counter changes -/
inductive Tr (s : State) (tid : Nat) : Act → State → Prop
  | skip {th} : s.ths[tid]? = some th → Tr s tid .skip { s with y := .completed }
  | out {a th pc c} : s.ths[tid]? = some th → isInside ⟨pc⟩ = false →
      Tr s tid a (setPc { s with counter := c } tid pc)
  | acquire {t n} : s.ths[tid]? = some ⟨.waiting t n⟩ → s.y = .val t →
      Tr s tid .tryAcquire (setPc { s with y := .mutating } tid (.inside t n 0 false))
  | read {t n got dry} : s.ths[tid]? = some ⟨.inside t n got dry⟩ →
      (∀ l, s.innerLen = some l → s.innerPos < l) →
      Tr s tid .readOne (setPc { s with innerPos := s.innerPos + 1, handed := s.handed ++ [(t + got, s.innerPos)] }
        tid (.inside t n (got + 1) false))
  | dry {t n got dry l} : s.ths[tid]? = some ⟨.inside t n got dry⟩ → s.innerLen = some l →
      ¬ s.innerPos < l → Tr s tid .readOne (setPc s tid (.inside t n got true))
  | release {t n dry} : s.ths[tid]? = some ⟨.inside t n n dry⟩ → s.y = .mutating →
      Tr s tid .release (setPc { s with y := .val (t + n) } tid .idle)
  | releaseDry {t n got} : s.ths[tid]? = some ⟨.inside t n got true⟩ → got ≠ n → s.y = .mutating →
      Tr s tid .release (setPc { s with y := .completed } tid .idle)
  | releaseBad {t n got dry k} : s.ths[tid]? = some ⟨.inside t n got dry⟩ → s.y = .val k →
      Tr s tid .release (setPc { s with assertFailed := true } tid .idle)

theorem step_cases {motive : State → Prop} (s : State) (tid : Nat) (a : Act) (same : motive s)
    (tr : ∀ s', Tr s tid a s' → motive s') : motive (step s tid a) := by
  -- the cases are the leaves of `step` in the order they are written; the others return `s`
  fun_cases step s tid a
  case case1 h => exact tr _ (.skip h)
  case case3 h _ => exact tr _ (.out h rfl)
  case case4 h hy => exact tr _ (.acquire h (eq_of_beq hy))
  case case5 h _ _ => exact tr _ (.out h rfl)
  case case7 h _ l hl hlt => exact tr _ (.read h fun l' hl' => Option.some.inj (hl.symm.trans hl') ▸ hlt)
  case case8 h _ l hl hge => exact tr _ (.dry h hl hge)
  case case9 h _ hl => exact tr _ (.read h fun l' hl' => nomatch hl.symm.trans hl')
  case case11 t n got dry h hc y' hy =>
    -- `release_handle` for a complete chunk, `release_handle_complete` otherwise
    by_cases hgn : got = n
    · subst hgn
      rw [show y' = .val (t + got) from if_pos (beq_iff_eq.2 rfl)]
      exact tr _ (.release h hy)
    · cases (Bool.or_eq_true_iff.1 hc).resolve_left (mt eq_of_beq hgn)
      rw [show y' = .completed from if_neg (mt eq_of_beq hgn)]
      exact tr _ (.releaseDry h hgn hy)
  case case12 h _ _ => exact tr _ (.out h rfl)
  case case13 h _ k hy => exact tr _ (.releaseBad h hy)
  all_goals exact same

theorem getElem?_setPc {s : State} {tid : Nat} {pc : PC} {j : Nat} {th : Thread}
    (h : (setPc s tid pc).ths[j]? = some th) :
    (j = tid ∧ th = ⟨pc⟩) ∨ (j ≠ tid ∧ s.ths[j]? = some th) := by
  by_cases hj : tid = j
  · subst hj
    obtain ⟨_, e⟩ := List.getElem?_eq_some_iff.1 h
    exact .inl ⟨rfl, e.symm.trans (List.getElem_set_self _)⟩
  · exact .inr ⟨fun e => hj e.symm, (List.getElem?_set_ne hj).symm.trans h⟩

/-- no thread other than `tid` is inside -/
def Alone (s : State) (tid : Nat) : Prop :=
  ∀ (j : Nat) (th : Thread), s.ths[j]? = some th → isInside th = true → j = tid

/-- `uniq` is the mutual exclusion.  `valFree` and `pos` tie the handle to the inner iterator
    (a free handle shows its position, the thread inside knows it as ticket + items read), which
    is what makes the index contract `idx`, `rng` inductive. -/
structure Inv (s : State) : Prop where
  uniq : ∀ {i : Nat} {ti : Thread}, s.ths[i]? = some ti → isInside ti = true → Alone s i
  valFree : ∀ k, s.y = .val k →
    (∀ (i : Nat) (ti : Thread), s.ths[i]? = some ti → isInside ti ≠ true) ∧ s.innerPos = k
  pos : ∀ {i t n got : Nat} {dry : Bool}, s.ths[i]? = some ⟨.inside t n got dry⟩ → s.innerPos = t + got
  idx : ∀ p ∈ s.handed, p.1 = p.2
  rng : s.handed.map (·.2) = List.range s.innerPos
  noassert : s.assertFailed = false

theorem init_idle {n : Nat} {len : Option Nat} {i : Nat} {ti : Thread}
    (h : (init n len).ths[i]? = some ti) : ti = ⟨.idle⟩ :=
  List.eq_of_mem_replicate (List.mem_of_getElem? h)

theorem inv_init (n : Nat) (len : Option Nat) : Inv (init n len) := by
  refine ⟨?_, ?_, ?_, nofun, rfl, rfl⟩
  · intro i ti hi hti
    rw [init_idle hi] at hti; cases hti
  · intro k hk
    cases hk
    exact ⟨fun i ti hi => init_idle hi ▸ nofun, rfl⟩
  · intro i t n' got dry hi
    cases init_idle hi

/-- `tid` moves outside the handle and touches nothing the invariant speaks of: the counter is
    irrelevant to `Inv`, so `c` is arbitrary; a caller whose step keeps the counter passes
    `s.counter` -/
theorem inv_out {s : State} (h : Inv s) {tid : Nat} {pc : PC} {c : Nat}
    (hpc : isInside ⟨pc⟩ = false) : Inv (setPc { s with counter := c } tid pc) := by
  have old : ∀ (j : Nat) (th : Thread), (setPc { s with counter := c } tid pc).ths[j]? = some th →
      isInside th = true → s.ths[j]? = some th := by
    intro j th hj hin
    rcases getElem?_setPc hj with ⟨_, rfl⟩ | ⟨_, h'⟩
    · rw [hpc] at hin; cases hin
    · exact h'
  refine ⟨?_, ?_, ?_, h.idx, h.rng, h.noassert⟩
  · intro i ti hi hti j tj hj htj
    exact h.uniq (old i ti hi hti) hti j tj (old j tj hj htj) htj
  · intro k hk
    exact ⟨fun i ti hi hin => (h.valFree k hk).1 i ti (old i ti hi hin) hin, (h.valFree k hk).2⟩
  · intro i t n got dry hi
    exact h.pos (old i _ hi rfl)

/-- `tid` moves while nobody else is inside: it may take the handle, keep it or give it back -/
theorem inv_move {s : State} (h : Inv s) {tid : Nat} (alone : Alone s tid) {pc : PC} {y' : Y}
    {pos' : Nat} {handed' : List (Nat × Nat)}
    (hy : ∀ k, y' = .val k → isInside ⟨pc⟩ = false ∧ pos' = k)
    (hpos : ∀ {t n got : Nat} {dry : Bool}, pc = .inside t n got dry → pos' = t + got)
    (hidx : ∀ p ∈ handed', p.1 = p.2) (hrng : handed'.map (·.2) = List.range pos') :
    Inv (setPc { s with y := y', innerPos := pos', handed := handed' } tid pc) := by
  have old : ∀ (j : Nat) (th : Thread),
      (setPc { s with y := y', innerPos := pos', handed := handed' } tid pc).ths[j]? = some th →
      isInside th = true → j = tid ∧ th = ⟨pc⟩ := by
    intro j th hj hin
    rcases getElem?_setPc hj with e | ⟨ne, h'⟩
    · exact e
    · exact absurd (alone j th h' hin) ne
  refine ⟨?_, ?_, ?_, hidx, hrng, h.noassert⟩
  · intro i ti hi hti j tj hj htj
    rw [(old i ti hi hti).1, (old j tj hj htj).1]
  · intro k hk
    exact ⟨fun i ti hi hin => Bool.false_ne_true ((hy k hk).1.symm.trans ((old i ti hi hin).2 ▸ hin)),
      (hy k hk).2⟩
  · intro i t n got dry hi
    exact hpos (Thread.mk.inj (old i _ hi rfl).2).symm

theorem inv_step {s : State} (h : Inv s) (tid : Nat) (a : Act) : Inv (step s tid a) := by
  refine step_cases s tid a h fun s' tr => ?_
  cases tr with
  | skip => exact ⟨h.uniq, nofun, h.pos, h.idx, h.rng, h.noassert⟩
  | out _ hpc => exact inv_out h hpc
  | acquire _ hy =>
    have hv := h.valFree _ hy
    exact inv_move h (fun j th hj hin => absurd hin (hv.1 j th hj)) nofun
      (fun e => by cases e; exact hv.2) h.idx h.rng
  | read hth =>
    have hp := h.pos hth
    refine inv_move h (h.uniq hth rfl) (fun k hk => absurd rfl ((h.valFree k hk).1 tid _ hth))
      (fun e => by cases e; exact congrArg Nat.succ hp) ?_ ?_
    · intro p hp'
      rcases List.mem_append.1 hp' with h1 | h1
      · exact h.idx p h1
      · cases List.mem_singleton.1 h1; exact hp.symm
    · rw [List.map_append, h.rng, List.range_succ]; rfl
  | dry hth =>
    exact inv_move h (h.uniq hth rfl) (fun k hk => absurd rfl ((h.valFree k hk).1 tid _ hth))
      (fun e => by cases e; exact h.pos hth) h.idx h.rng
  | release hth =>
    exact inv_move h (h.uniq hth rfl) (fun k hk => ⟨rfl, (h.pos hth).trans (Y.val.inj hk)⟩) nofun
      h.idx h.rng
  | releaseDry hth => exact inv_move h (h.uniq hth rfl) nofun nofun h.idx h.rng
  | releaseBad hth hy => exact absurd rfl ((h.valFree _ hy).1 tid _ hth)

theorem inv_reach (n : Nat) (len : Option Nat) (sched : List (Nat × Act)) :
    Inv (run (init n len) sched) :=
  List.foldlRecOn sched _ (inv_init n len) fun _ h p _ => inv_step h p.1 p.2

theorem filter_length_le_one {α : Type} (p : α → Bool) (l : List α)
    (h : ∀ {i : Nat} {a : α}, l[i]? = some a → p a = true →
      ∀ (j : Nat) (b : α), l[j]? = some b → p b = true → j = i) : (l.filter p).length ≤ 1 := by
  induction l with
  | nil => exact Nat.zero_le _
  | cons x xs ih =>
    have ih' := ih fun {i a} hi ha j b hj hb => Nat.succ.inj (h (i := i + 1) hi ha (j + 1) b hj hb)
    cases hx : p x
    · rwa [List.filter_cons_of_neg (ne_true_of_eq_false hx)]
    · rw [List.filter_cons_of_pos hx, List.filter_eq_nil_iff.2 fun a ha hpa =>
        let ⟨i, hi⟩ := List.getElem?_of_mem ha
        nomatch h (i := 0) rfl hx (i + 1) a hi hpa]
      exact Nat.le_refl _

theorem count_setPc {s : State} {tid : Nat} {b : Thread} (hb : s.ths[tid]? = some b) (pc : PC)
    (hab : isInside ⟨pc⟩ = true → isInside b = true) :
    insideCount (setPc s tid pc) ≤ insideCount s := by
  obtain ⟨hlt, rfl⟩ := List.getElem?_eq_some_iff.1 hb
  unfold insideCount setPc
  rw [← List.countP_eq_length_filter, ← List.countP_eq_length_filter, List.countP_set hlt]
  cases hpc : isInside ⟨pc⟩
  · exact Nat.sub_le _ _
  · have := List.boole_getElem_le_countP (p := isInside) hlt
    rw [if_pos (hab hpc)] at this ⊢
    exact Nat.le_of_eq (Nat.sub_add_cancel this)

theorem completed_step (s : State) (h : s.y = .completed) (tid : Nat) (a : Act) :
    (step s tid a).y = .completed ∧ insideCount (step s tid a) ≤ insideCount s := by
  refine step_cases (motive := fun s' => s'.y = .completed ∧ insideCount s' ≤ insideCount s) s tid a
    ⟨h, Nat.le_refl _⟩ fun s' tr => ?_
  cases tr with
  | skip => exact ⟨rfl, Nat.le_refl _⟩
  | acquire _ hy | release _ hy | releaseDry _ _ hy | releaseBad _ hy => cases h.symm.trans hy
  | out hth hpc => exact ⟨h, count_setPc hth _ fun e => nomatch hpc.symm.trans e⟩
  | read hth | dry hth => exact ⟨h, count_setPc hth _ fun _ => rfl⟩

/-- once the handle is COMPLETED (`skip_to_end`, or a pull that ran dry) nobody acquires it any more -/
theorem completed_stays (s : State) (h : s.y = .completed) (sched : List (Nat × Act)) :
    (run s sched).y = .completed ∧ insideCount (run s sched) ≤ insideCount s :=
  List.foldlRecOn (motive := fun s' => s'.y = .completed ∧ insideCount s' ≤ insideCount s) sched _
    ⟨h, Nat.le_refl _⟩ fun s' h' p _ =>
      have h1 := completed_step s' h'.1 p.1 p.2
      ⟨h1.1, Nat.le_trans h1.2 h'.2⟩

/-- non-vacuity: two threads, chunk sizes 2 and 3 over 4 items: thread 1 takes ticket 0, thread 0
    ticket 2 and has to wait; the second pull runs dry and completes the iterator -/
example :
    (run (init 2 (some 4))
      [(1, .start 2), (0, .start 3), (0, .tryAcquire), (1, .tryAcquire), (1, .readOne), (0, .tryAcquire),
       (1, .readOne), (1, .release), (0, .tryAcquire), (0, .readOne), (0, .readOne), (0, .readOne),
       (0, .release)]).handed = [(0, 0), (1, 1), (2, 2), (3, 3)] := by
  decide

/-! Completeness when nobody calls `skip_to_end`: the handle can then only be marked COMPLETED by a
thread that saw the inner iterator run dry, so once it is COMPLETED every element of the inner
iterator has been handed out, each exactly once and at its true position.  With `skip_to_end` this
fails: the reservation of a waiting thread is lost. -/

def NoSkip (sched : List (Nat × Act)) : Prop := ∀ p ∈ sched, p.2 ≠ .skip

/-- without `skip_to_end`, the handle is COMPLETED only at the end of the inner iterator -/
structure Dry (l : Nat) (s : State) : Prop where
  len : s.innerLen = some l
  le : s.innerPos ≤ l
  comp : s.y = .completed → s.innerPos = l
  /-- a thread inside that has seen the inner iterator return `None` saw it at the end -/
  insideDry : ∀ {i t n got : Nat}, s.ths[i]? = some ⟨.inside t n got true⟩ → s.innerPos = l

theorem dry_init (n l : Nat) : Dry l (init n (some l)) :=
  ⟨rfl, Nat.zero_le _, nofun, fun h => nomatch init_idle h⟩

/-- for a step that moves one thread and leaves the inner iterator alone; what else it may change
    (`counter`, `y`, `assertFailed`) is left open, as `c` in `inv_out` -/
theorem Dry.move {l : Nat} {s : State} (h : Dry l s) {tid c : Nat} {y' : Y} {a : Bool} {pc : PC}
    (hy : y' = .completed → s.innerPos = l)
    (hpc : ∀ t n got, pc = .inside t n got true → s.innerPos = l) :
    Dry l (setPc { s with counter := c, y := y', assertFailed := a } tid pc) := by
  refine ⟨h.len, h.le, hy, fun {i t n got} hi => ?_⟩
  rcases getElem?_setPc hi with ⟨_, heq⟩ | ⟨_, hold⟩
  · exact hpc t n got (Thread.mk.inj heq).symm
  · exact h.insideDry hold

theorem dry_step {l : Nat} {s : State} (h : Dry l s) (tid : Nat) (a : Act) (ha : a ≠ .skip) :
    Dry l (step s tid a) := by
  refine step_cases s tid a h fun s' tr => ?_
  cases tr with
  | skip => exact absurd rfl ha
  | out _ hpc => exact h.move h.comp fun _ _ _ e => by subst e; cases hpc
  | releaseBad => exact h.move h.comp nofun
  | acquire | release => exact h.move nofun nofun
  | read hth hlt =>
    have hlt : s.innerPos < l := hlt l h.len
    refine ⟨h.len, hlt, fun hy => absurd (h.comp hy) (Nat.ne_of_lt hlt), fun hi => ?_⟩
    rcases getElem?_setPc hi with ⟨_, heq⟩ | ⟨_, hold⟩
    · cases heq
    · exact absurd (h.insideDry hold) (Nat.ne_of_lt hlt)
  | dry hth hl hge =>
    cases h.len.symm.trans hl
    exact h.move h.comp fun _ _ _ _ => Nat.le_antisymm h.le (Nat.le_of_not_lt hge)
  | releaseDry hth => exact h.move (fun _ => h.insideDry hth) nofun

theorem dry_run {l : Nat} {s : State} (h : Dry l s) (sched : List (Nat × Act)) (hs : NoSkip sched) :
    Dry l (run s sched) :=
  List.foldlRecOn sched _ h fun _ h p hp => dry_step h p.1 p.2 (hs p hp)

end Ticket
end OrxPar
