/- Ownership ledgers of the unsafe protocols (`Model/Resources.lean`). -/
import OrxPar.Lemmas.ResHeap
import OrxPar.Lemmas.ResBag
import OrxPar.Lemmas.ResSrc
namespace OrxPar
namespace Res
open K

def cvecs (tv : List (List (Key × Val))) : List CVec := tv.map fun v => v.map fun p => (p.1, Cell.init p.2)

theorem cvecs_eq (tv : List (List (Key × Val))) : cvecs tv = tv.map cv := rfl

def SortedVec (v : List (Key × Val)) : Prop := v.Pairwise fun a b => Key.lt a.1 b.1 = true

/-- **heap sort ledger.** Whatever the keys are, the cell-level loop reads every cell exactly
    once, in the order of the abstract k-way merge, and after `set_len(0)` dropping the vectors
    drops nothing. -/
theorem heapSort_ledger (pre : List Val) (tv : List (List (Key × Val))) :
    heapSort true pre (cvecs tv) = { out := heapSortInto pre tv, dropped := [], leaked := [], bad := 0 } := by
  obtain ⟨h1, h2, h3, _⟩ := loop_final tv
  unfold heapSort
  rw [cvecs_eq]
  simp only [if_true]
  rw [h1, h2, held_eq_nil h3]
  rfl

/-- why `set_len(0)` is there: without it every element that was read is dropped again -/
theorem heapSort_without_setLen0_bad (pre : List Val) (tv : List (List (Key × Val)))
    (hne : tv.flatten ≠ []) : 0 < (heapSort false pre (cvecs tv)).bad := by
  obtain ⟨_, _, h3, h4⟩ := loop_final tv
  unfold heapSort
  rw [cvecs_eq]
  simp only [Bool.false_eq_true, if_false]
  generalize (HS.loop _ _).vecs.flatten.map (·.2) = cells at h3 h4 ⊢
  cases cells with
  | nil => exact absurd (List.length_eq_zero_iff.1 h4.symm) hne
  | cons c cs =>
    cases h3 c List.mem_cons_self
    exact Nat.lt_of_lt_of_le Nat.one_pos (Nat.le_trans (Nat.le_add_right 1 _) (Nat.le_add_left _ _))

inductive SrcOp
  | pull (c : Nat)      -- reserve `c` positions, take the ones that exist
  | skip                -- `skip_to_end`

def VecSrc.apply (st : VecSrc × List Nat) : SrcOp → VecSrc × List Nat
  | .pull c =>
    let (s, start) := st.1.reserve c
    let n := Nat.min c (s.cells.length - start)
    let (s', ts) := s.take start n
    (s', st.2 ++ ts)
  | .skip => (st.1.skipToEnd, st.2)

theorem Inv.apply {toks : List Nat} {st : VecSrc × List Nat} (h : Inv toks st.1 st.2) (op : SrcOp) :
    Inv toks (VecSrc.apply st op).1 (VecSrc.apply st op).2 := by
  -- `apply`, not `exact`: matching the goal means unfolding `VecSrc.apply`, which `exact` does twice
  cases op with
  | pull c => apply h.pull c rfl
  | skip => apply h.skip

/-- **source ledger.** for every sequence of pulls (any sizes) and `skip_to_end` calls, followed
    by the iterator's drop: every token was either taken by exactly one pull or dropped exactly
    once, nothing remains, no bad event -/
theorem src_ledger (toks : List Nat) (ops : List SrcOp) :
    let st := ops.foldl VecSrc.apply (VecSrc.new toks, [])
    let s' := st.1.drop
    (st.2 ++ s'.dropped).Perm toks ∧ s'.bad = 0 ∧ held s'.cells = [] :=
  (List.foldlRecOn (motive := fun st : VecSrc × List Nat => Inv toks st.1 st.2) ops _ (Inv.init toks)
    fun _ h op _ => h.apply op).drop

/-- non-vacuity: two pulls, an early exit, the drop -/
example :
    let st := [SrcOp.pull 2, .pull 2, .skip, .pull 2].foldl VecSrc.apply (VecSrc.new [10, 11, 12, 13, 14, 15, 16], [])
    st.2 = [10, 11, 12, 13] ∧ st.1.drop.dropped = [14, 15, 16] ∧ st.1.drop.bad = 0 := by
  decide

end Res
end OrxPar
