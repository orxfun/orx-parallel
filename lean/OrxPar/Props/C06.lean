/-
  C06 — collect_into appends to, and never disturbs, existing contents.
  For target kind ∈ {Vec, SplitVec, FixedVec}, any existing contents `pre`, any chain, sources of
  known and unknown length, sequential or any accepted parallel execution:
  `collect_into(pre) = pre ++ (what collect_vec returns)`.
  The pinned (pre-`fix:`) behaviour of `Vec::map_into` for unknown-length sources is kept as
  `mapIntoPinned`, with the defect witness.
-/
import OrxPar.Lemmas.Terminals
namespace OrxPar

/-- **C06.** -/
theorem C06_collect_into (s : Src) (ops : List Op) (ex : Exec) (h : (Par.build s ops).1.Ok ex)
    (t : Target) (pre : List Val) :
    (Par.build s ops).1.term ex (.collectInto t pre) = .vals (pre ++ seqVals s.items ops) :=
  build_term_spec s ops ex (.collectInto t pre) h

/-- **C06 (relative to collect_vec).** the appended part is exactly what `collect_vec` returns
    under the same execution -/
theorem C06_appends_collect_vec (P : Par) (ex : Exec) (h : P.Ok ex) (t : Target) (pre : List Val) :
    ∃ v, P.term ex .collectVec = .vals v ∧ P.term ex (.collectInto t pre) = .vals (pre ++ v) :=
  ⟨P.stream.vals, P.core_collectInto ex h .vec [], P.core_collectInto ex h t pre⟩

/-- the map-only, unknown-length branch of the pinned `Vec::map_into`:
    `SplitVec::…map_into(par_map).to_vec()`, which ignores `self` -/
def mapIntoPinned (_pre : List Val) (p : Params) (s : Src) (m : Val → Val) (ex : Exec) :
    Option (List Val) :=
  Kern.mapCol p s m [] ex

/-- the defect the `fix:` commit repairs: existing contents lost -/
theorem C06_pinned_defect_witness :
    mapIntoPinned [100, 200, 300] ⟨.max 1, .auto⟩ ⟨[1, 2], false⟩ (· + 1) ⟨[], [], fun _ => 1⟩
      ≠ some ([100, 200, 300] ++ [2, 3]) := by
  decide

/-- non-vacuity: a map-only pipeline over an unknown-length source into a non-empty `Vec`,
    two workers -/
example :
    (Par.build ⟨[1, 2, 3], false⟩ [.numThreads (.max 2), .map 0 (· + 1)]).1.term
      { asg := [⟨2, 0, [1]⟩, ⟨1, 1, [2, 3]⟩], order := [1, 2], cs := fun _ => 2 }
      (.collectInto .vec [100, 200]) = .vals [100, 200, 2, 3, 4] := by
  rw [C06_collect_into]
  · rfl
  · exact Or.inr ⟨⟨rfl, List.cons_ne_nil _ _, _, rfl, rfl, List.cons_ne_nil _ _, _, rfl, rfl⟩,
      by decide, by decide⟩

end OrxPar
