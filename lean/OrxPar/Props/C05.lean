/-
  C05 — Closures run exactly once per element; source advanced by one thread at a time.
  (a) full-visit terminals: the multiset of (stage, argument) closure invocations of the whole
      computation — construction effects of eager sites plus the terminal phase — equals that of
      the std chain, for every chain and every accepted execution;
  (b) short-circuit terminals: no invocation happens more often than in the full sequential
      evaluation (sequential mode: the invocations are a prefix of it);
  (c) every element the source yields is fed to the pipeline exactly once: the chunks of an
      accepted execution partition the source (`Tiles`), shown for every schedule in C01.
  (d) the serialisation of `next()` on a by-value iterator source is a property of the
      dependency `orx-concurrent-iter` (ticket lock); it is modelled in `Model/Ticket.lean` and
      proved in `C05_mutex`; it is monitored at run time by the harness' re-entrancy detector.
-/
import OrxPar.Lemmas.KernelsW
import OrxPar.Lemmas.Scan
import OrxPar.Lemmas.Ticket
namespace OrxPar

/-- **C05 (full-visit).** -/
theorem C05_full (s : Src) (ops : List Op) (ex : Exec)
    (h : (Par.build s ops).1.params.isSequential = true ∨ ex.Accepts (Par.build s ops).1.src.items) :
    ((Par.build s ops).2 ++ (Par.build s ops).1.fullLog ex).Perm (seqStream s.items ops).log :=
  ((Par.fullLog_perm _ ex h).append_left _).trans (build_log_perm s ops)

/-- the same with multiplicities: each (stage, argument) pair occurs exactly as often -/
theorem C05_full_counts (s : Src) (ops : List Op) (ex : Exec)
    (h : (Par.build s ops).1.params.isSequential = true ∨ ex.Accepts (Par.build s ops).1.src.items)
    (e : Event) :
    ((Par.build s ops).2 ++ (Par.build s ops).1.fullLog ex).count e = (seqStream s.items ops).log.count e :=
  (C05_full s ops ex h).count_eq e

/-- **C05 (terminal closures included).** the invocations of the terminal phase as the check's
    driver computes them (`Par.termLog`: chain closures, the `for_each` closure — `for_each` being
    `map(f).count()`, possibly through an eager site) are, under every accepted execution, a
    permutation of the sequential ones -/
theorem C05_term_events (P : Par) (ex : Exec) (t : Terminal) (hsc : t.isShortCircuit = false)
    (h : (P.forTerminal t).1.params.isSequential = true ∨ ex.Accepts (P.forTerminal t).1.src.items) :
    (P.termLog ex t).Perm (P.possibleLog t) :=
  Par.termLog_perm_full P ex t hsc h

/-- **C05 (kernels).** the per-element work of each kernel family, transcribed with logged
    closures (`mapFilStep`, `filtermapFilStep`, `flatmapFilStep`) and given the closures its
    terminal passes down (`Par.kernelStep`), is exactly the pipeline's logged stream of that
    element — no closure is evaluated twice or skipped inside a kernel -/
theorem C05_kernel_step (P : Par) (x : Val) : P.kernelStep x = P.elem x := by
  cases P with
  | map p s m => exact Prod.filterW_noFilter_eq ((Prod.single x).mapW m)
  | filterMap p s fm => exact (filtermapFilStep_eq fm _ x).trans (Prod.filterW_noFilter_eq _)
  | filterMapFil p s fm f => exact filtermapFilStep_eq fm f x
  | flatMap p s g => exact Prod.filterW_noFilter_eq _
  | _ => rfl

/-- hence the events of a parallel terminal phase, written with the kernels' own steps, are a
    permutation of the sequential events of the pipeline -/
theorem C05_kernel_log (P : Par) (ex : Exec) (h : ex.Accepts P.src.items) :
    (P.kernelLog ex).Perm P.stream.log := by
  simp only [Par.kernelLog, C05_kernel_step]
  exact Par.parLog_perm P ex h

/-- **C05 (short-circuit, parallel).** at most once per element that reaches the stage -/
theorem C05_short_par (P : Par) (q : Val → Bool) (ex : Exec) (n : Nat)
    (ht : Tiles ex.asg 0 (P.src.items.take n)) (hn : ex.order.Nodup)
    (htid : ∀ c ∈ ex.asg, c.tid ∈ ex.order) (e : Event) :
    (P.parFindLog q ex).count e ≤ (P.stream.filterW (callW stPred q)).log.count e := by
  rw [Par.log_filterW_stream]
  exact scan_count_le (P.elemQ q) ⟨ht, hn, htid⟩ e

/-- **C05 (short-circuit, sequential).** -/
theorem C05_short_seq (P : Par) (q : Val → Bool) :
    P.seqFindLog q <+: (P.stream.filterW (callW stPred q)).log :=
  Prod.first_log_prefix _

/-- **C05 (source serialisation).** in the ticket protocol of `ConIterOfIter` at most one thread
    is between acquiring and releasing the handle — hence at most one thread can be inside the
    source iterator's `next()` — for every number of threads, every interleaving of their atomic
    steps, any chunk sizes, and `skip_to_end` by anybody at any time -/
theorem C05_mutex (n : Nat) (len : Option Nat) (sched : List (Nat × Ticket.Act)) :
    Ticket.insideCount (Ticket.run (Ticket.init n len) sched) ≤ 1 :=
  Ticket.filter_length_le_one Ticket.isInside _ (Ticket.inv_reach n len sched).uniq

/-- **C05 (each yielded element handed out once, at its true position).** the items handed out
    are the inner iterator's items `0, 1, 2, …`, each exactly once, and each carries its true
    position as index -/
theorem C05_yield_once (n : Nat) (len : Option Nat) (sched : List (Nat × Ticket.Act)) :
    (Ticket.run (Ticket.init n len) sched).handed.map (·.2)
        = List.range (Ticket.run (Ticket.init n len) sched).innerPos ∧
    ∀ p ∈ (Ticket.run (Ticket.init n len) sched).handed, p.1 = p.2 :=
  ⟨(Ticket.inv_reach n len sched).rng, (Ticket.inv_reach n len sched).idx⟩

/-- **C05 (every element is fed — completeness of the source protocol).** in a full-visit kernel
    nobody calls `skip_to_end`; then the handle can only reach the COMPLETED state through a thread
    that saw the inner iterator run dry, and at that point every element of the inner iterator has
    been handed out: positions `0 … l−1`, each exactly once, each under its true index — for every
    number of threads, chunk sizes and interleaving of the atomic steps -/
theorem C05_source_complete (n l : Nat) (sched : List (Nat × Ticket.Act)) (hs : Ticket.NoSkip sched)
    (hc : (Ticket.run (Ticket.init n (some l)) sched).y = .completed) :
    (Ticket.run (Ticket.init n (some l)) sched).handed.map (·.2) = List.range l ∧
    ∀ p ∈ (Ticket.run (Ticket.init n (some l)) sched).handed, p.1 = p.2 :=
  ⟨by rw [(Ticket.inv_reach n (some l) sched).rng, (Ticket.dry_run (Ticket.dry_init n l) sched hs).comp hc],
    (Ticket.inv_reach n (some l) sched).idx⟩

/-- … and why a full-visit kernel (or the spawner) must never call `skip_to_end`, not even when
    `has_more()` reports `No`: `No` means every position is *reserved*; a thread that holds a
    reservation but not yet the handle gives up after `skip_to_end`, and its elements are never
    yielded (the mechanism of four independently seeded changes, DESIGN §0) -/
theorem C05_skip_to_end_loses_a_reservation :
    let s := Ticket.run (Ticket.init 3 (some 2))
      [(0, .start 1), (1, .start 1), (0, .tryAcquire), (2, .skip), (0, .readOne), (0, .release),
       (1, .tryAcquire), (0, .start 1), (0, .tryAcquire)]
    s.y = .completed ∧ s.handed = [(0, 0)] ∧ s.ths.all (fun t => t.pc == .idle) = true :=
  by decide

/-- the protocol's internal assertions never fire, also across a concurrent `skip_to_end` -/
theorem C05_no_assert (n : Nat) (len : Option Nat) (sched : List (Nat × Ticket.Act)) :
    (Ticket.run (Ticket.init n len) sched).assertFailed = false :=
  (Ticket.inv_reach n len sched).noassert

/-- non-vacuity: the log of `filter` then `map` on `[1,2,3]` is the lazy interleaving -/
example : (seqStream [1, 2, 3] [.filter 0 (· != 2), .map 1 (· + 10)]).log
    = [⟨0, 1⟩, ⟨1, 1⟩, ⟨0, 2⟩, ⟨0, 3⟩, ⟨1, 3⟩] := by decide

end OrxPar
