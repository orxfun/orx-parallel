/-
  C07 — collect_x returns a permutation of the sequential result.
  For every chain and every accepted execution the fragments appended in spawn order are, as a
  multiset, exactly the sequential result; in sequential mode they are equal to it.
-/
import OrxPar.Lemmas.Terminals
namespace OrxPar

/-- **C07.** nothing lost, nothing duplicated, nothing invented -/
theorem C07_collect_x (s : Src) (ops : List Op) (ex : Exec) (h : (Par.build s ops).1.Ok ex) :
    ∃ v, (Par.build s ops).1.term ex .collectX = .bag v ∧ v.Perm (seqVals s.items ops) :=
  build_stream_vals s ops ▸ (Par.core_collectX _ ex h).imp fun _ h => ⟨h.1, h.2.1⟩

/-- **C07 (sequential mode).** even the order is the sequential one -/
theorem C07_collect_x_seq (s : Src) (ops : List Op) (ex : Exec)
    (h : (Par.build s ops).1.params.isSequential = true) :
    (Par.build s ops).1.term ex .collectX = .bag (seqVals s.items ops) :=
  build_term_spec s ops ex .collectX h

/-- **C07 (multiplicities).** stated with counts: every value occurs exactly as often as in the
    sequential result (inputs with duplicates) -/
theorem C07_counts (s : Src) (ops : List Op) (ex : Exec) (h : (Par.build s ops).1.Ok ex) :
    ∃ v, (Par.build s ops).1.term ex .collectX = .bag v ∧ ∀ x, v.count x = (seqVals s.items ops).count x := by
  obtain ⟨v, h1, h2⟩ := C07_collect_x s ops ex h
  exact ⟨v, h1, fun x => h2.count_eq x⟩

/-- non-vacuity: duplicates in the input, worker 2 spawned second holds the first chunk -/
example : ({ asg := [⟨2, 0, [7, 7]⟩, ⟨1, 2, [7, 3]⟩], order := [1, 2], cs := fun _ => 2 } : Exec).Accepts
    [7, 7, 7, 3] :=
  ⟨⟨rfl, List.cons_ne_nil _ _, _, rfl, rfl, List.cons_ne_nil _ _, _, rfl, rfl⟩, by decide, by decide⟩

end OrxPar
