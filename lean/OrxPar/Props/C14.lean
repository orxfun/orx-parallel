/-
  C14 — A panicking closure propagates as a panic and never corrupts memory.
  (a) memory: when a closure panics while other workers keep writing, the partially written
      ordered bag of `map_col` is, since the `fix:` commit, held in `ManuallyDrop` and leaked:
      no never-initialised cell is dropped, nothing is dropped twice, for every subset of
      positions written so far (`C14_bag_unwind_no_bad`).  The pinned behaviour — the bag dropped
      with the dependency's "counts differ ⇒ drop up to capacity" rule — is kept as
      `Bag.unwindUnguarded` with the proof that it *does* drop never-written cells whenever the
      run is interrupted with a gap (`C14_pinned_defect`).  The filtering kernels keep their
      results in ordinary `Vec`s which unwinding drops normally (safe Rust).
  (b) propagation: `std::thread::scope` re-raises a worker's panic after joining all workers and
      `join().expect(..)` panics on a panicked worker; this behaviour of `std` is modelled in
      `Model/Panic.lean` together with the join structure of `Runner::{run, run_map, reduce}`;
      `C14_propagates`: for every pipeline, accepted execution and invocation the sequential
      evaluation reaches, some worker evaluates it and the call panics; `C14_evaluated_panics`:
      whenever any worker evaluates it (find family included); `C14_no_spurious_panic`: otherwise
      the entry points return what the panic-free model returns.  Observed on every run.
  (c) the workers that did not panic finish: every worker's loop terminates because a panicking
      worker no longer pulls (C10's measure argument applies to the remaining workers).
-/
import OrxPar.Lemmas.Resources
import OrxPar.Lemmas.Panic
import OrxPar.Lemmas.Scan
namespace OrxPar
open Res

/-- **C14 (no bad drop while unwinding).** -/
theorem C14_bag_unwind_no_bad (pre : List Nat) (extra : Nat) (ws : List (Nat × Nat))
    (hin : ∀ w ∈ ws, w.1 < pre.length + extra) :
    ((Bag.new pre extra).writes ws).unwindGuarded.bad = 0 ∧
    ((Bag.new pre extra).writes ws).unwindGuarded.dropped = [] :=
  ⟨Bag.writes_bad ws _ fun w hw => Bag.new_length pre extra ▸ hin w hw, rfl⟩

/-- **C14 (the defect the `fix:` commit repairs).** with the bag dropped during unwinding, every
    interrupted run that leaves a gap drops never-initialised memory -/
theorem C14_pinned_defect (pre : List Nat) (extra : Nat) (ws : List (Nat × Nat))
    (hin : ∀ w ∈ ws, pre.length ≤ w.1 ∧ w.1 < pre.length + extra)
    (hnd : (ws.map (·.1)).Nodup) (hgap : ws.length < extra) (hne : ws ≠ [])
    (hmis : ((Bag.new pre extra).writes ws).numPushed ≠ ((Bag.new pre extra).writes ws).len) :
    0 < ((Bag.new pre extra).writes ws).unwindUnguarded.bad :=
  Bag.unguarded_writes pre extra ws hgap hmis

/-- concrete witness: capacity 3, only position 2 written when the panic strikes -/
theorem C14_pinned_defect_witness : 0 < ((Bag.new [] 3).writes [(2, 7)]).unwindUnguarded.bad :=
  by decide

/-- the merge never runs on a panicking path, and the source drops what was not taken -/
theorem C14_source_after_panic (toks : List Nat) (ops : List SrcOp) :
    let st := ops.foldl VecSrc.apply (VecSrc.new toks, [])
    st.1.drop.bad = 0 :=
  (src_ledger toks ops).2.1

/-! ### propagation

`Model/Panic.lean` transcribes how the three entry points of `Runner` treat their workers
(`run`: scope only; `run_map`: `join().expect(..)` in a loop; `reduce`: `join().expect(..)`
interleaved with the fold).  A worker is described by the closure invocations it evaluates
(`evs t`) and the value it would return (`val t`); it unwinds iff the panicking invocation
`pe` is among the former. -/

/-- **C14 (propagation, any kernel incl. the find family).** if *some* worker evaluates the
    panicking invocation, each of the three entry points panics on the calling thread — never a
    value — whatever the other workers return, in whatever order they were spawned -/
theorem C14_evaluated_panics {β : Type} (order : List Nat) (evs : Nat → List Event) (pe : Event)
    (h : ∃ t ∈ order, pe ∈ evs t) (val : Nat → β) (op : β → β → β) (u : Nat → Unit) :
    RunnerP.reduce (order.map (workerRes evs pe val)) op = .panic ∧
    RunnerP.runMap (order.map (workerRes evs pe val)) = .panic ∧
    RunnerP.run (order.map (workerRes evs pe u)) = .panic :=
  ⟨RunnerP.reduce_panics _ op (workerRes_any_panicked evs pe val order h),
   RunnerP.runMap_panics _ (workerRes_any_panicked evs pe val order h),
   (RunnerP.run_eq _).trans (if_pos (workerRes_any_panicked evs pe u order h))⟩

/-- **C14 (propagation, full-visit terminals).** for every pipeline, every accepted execution of
    its runner (any tiling, any assignment, any spawn order) and every invocation `pe` the
    sequential evaluation reaches: some worker evaluates `pe`, hence the call panics -/
theorem C14_propagates (P : Par) (ex : Exec) (h : ex.Accepts P.src.items) (pe : Event)
    (hpe : pe ∈ P.stream.log) {β : Type} (task : Nat → List Chunk → β) (op : β → β → β) :
    RunnerP.reduce (ex.order.map (workerRes (P.workerEvents ex) pe
        fun t => task (ex.cs t) (ex.chunksOf t))) op = .panic ∧
    RunnerP.runMap (ex.order.map (workerRes (P.workerEvents ex) pe
        fun t => task (ex.cs t) (ex.chunksOf t))) = .panic ∧
    RunnerP.run (ex.order.map (workerRes (P.workerEvents ex) pe fun _ => ())) = .panic :=
  C14_evaluated_panics ex.order _ pe ((Par.mem_workerEvents P ex h pe).2 hpe) _ op _

/-- **C14 (no spurious panic).** if the panicking invocation is not reached by the sequential
    evaluation, no worker reaches it and the entry points return exactly what the panic-free
    model (`Exec.reduce`, `Exec.runMap`) says -/
theorem C14_no_spurious_panic (P : Par) (ex : Exec) (h : ex.Accepts P.src.items) (pe : Event)
    (hpe : pe ∉ P.stream.log) {β : Type} (task : Nat → List Chunk → β) (op : β → β → β) :
    RunnerP.reduce (ex.order.map (workerRes (P.workerEvents ex) pe
        fun t => task (ex.cs t) (ex.chunksOf t))) op = .ret (ex.order.length, ex.reduce task op) ∧
    RunnerP.runMap (ex.order.map (workerRes (P.workerEvents ex) pe
        fun t => task (ex.cs t) (ex.chunksOf t))) = .ret (ex.runMap task) := by
  have hno : ∀ t ∈ ex.order, pe ∉ P.workerEvents ex t := fun t ht hm =>
    hpe ((Par.mem_workerEvents P ex h pe).1 ⟨t, ht, hm⟩)
  rw [workerRes_map_ok _ pe _ ex.order hno, RunnerP.reduce_ok, RunnerP.runMap_ok, List.length_map]
  exact ⟨rfl, rfl⟩

theorem panicPred_yes (eff : List Event) (P : Par) (t : Terminal) (pe : Event)
    (h : panicPred eff P t pe = .yes) : pe ∈ eff ∨ pe ∈ P.certainLog t := by
  revert h
  fun_cases panicPred eff P t pe with
  | case1 h1 =>
    exact fun _ => (Bool.or_eq_true_iff.1 h1).imp List.contains_iff_mem.1 List.contains_iff_mem.1
  | case2 | case3 => exact nofun

theorem panicPred_no (eff : List Event) (P : Par) (t : Terminal) (pe : Event)
    (h : panicPred eff P t pe = .no) : pe ∉ eff ∧ pe ∉ P.possibleLog t := by
  revert h
  fun_cases panicPred eff P t pe with
  | case1 | case2 => exact nofun
  | case3 h1 h2 =>
    exact fun _ => ⟨fun hm => h1 (Bool.or_eq_true_iff.2 (.inl (List.contains_iff_mem.2 hm))),
      mt List.contains_iff_mem.2 h2⟩

/-- **C14 (the check's panic prediction, `panicPred`, answer "no").** if neither the construction
    effects nor any possible invocation of the terminal equals `pe`, then no execution — full
    visit or short-circuit, any tiling of any pulled prefix, any distribution over workers —
    evaluates `pe`: the call cannot panic because of it -/
theorem C14_pred_no_sound (eff : List Event) (P : Par) (t : Terminal) (pe : Event) (ex : Exec) (n : Nat)
    (hfull : t.isShortCircuit = false →
      (P.forTerminal t).1.params.isSequential = true ∨ ex.Accepts (P.forTerminal t).1.src.items)
    (hshort : t.isShortCircuit = true → P.params.isSequential = true ∨
      (Tiles ex.asg 0 (P.src.items.take n) ∧ ex.order.Nodup ∧ ∀ c ∈ ex.asg, c.tid ∈ ex.order))
    (h : panicPred eff P t pe = .no) : pe ∉ eff ++ P.termLog ex t := by
  obtain ⟨h1, h2⟩ := panicPred_no eff P t pe h
  intro hm
  refine (List.mem_append.1 hm).elim h1 fun hm => h2 ?_
  cases hsc : t.isShortCircuit with
  | false => exact (Par.termLog_perm_full P ex t hsc (hfull hsc)).mem_iff.mp hm
  | true =>
    exact Par.termLog_sub_possible_short P ex t hsc n
      ((hshort hsc).imp_right fun h => ⟨h.1, h.2.1, h.2.2⟩) pe hm

/-- **C14 (answer "yes", full-visit terminals).** every accepted execution evaluates `pe` -/
theorem C14_pred_yes_full (eff : List Event) (P : Par) (t : Terminal) (pe : Event) (ex : Exec)
    (hsc : t.isShortCircuit = false)
    (hacc : (P.forTerminal t).1.params.isSequential = true ∨ ex.Accepts (P.forTerminal t).1.src.items)
    (h : panicPred eff P t pe = .yes) : pe ∈ eff ++ P.termLog ex t := by
  refine List.mem_append.2 ((panicPred_yes eff P t pe h).imp_right fun h1 => ?_)
  rw [Par.certain_eq_possible_full P t hsc] at h1
  exact (Par.termLog_perm_full P ex t hsc hacc).mem_iff.mpr h1

/-- **C14 (answer "yes", short-circuit terminals).** in every accepted execution of a
    short-circuit terminal — the pulled chunks tile a prefix of the source that is everything or
    contains a hit, distributed over the workers in any way — every invocation of the lazy
    sequential evaluation is performed: whoever pulled an element before the first hit scans it
    completely, and the first hit is scanned up to its match -/
theorem C14_pred_yes_short (eff : List Event) (P : Par) (t : Terminal) (pe : Event) (ex : Exec)
    (n : Nat) (hsc : t.isShortCircuit = true)
    (ht : Tiles ex.asg 0 (P.src.items.take n)) (htid : ∀ c ∈ ex.asg, c.tid ∈ ex.order)
    (hcov : P.src.items.length ≤ n ∨ ∃ x ∈ P.src.items.take n, hitOf (P.scanFn t) x = true)
    (h : panicPred eff P t pe = .yes) : pe ∈ eff ++ P.termLog ex t :=
  List.mem_append.2 ((panicPred_yes eff P t pe h).imp_right
    (Par.certain_sub_termLog_short P ex t hsc n ht htid hcov pe))

/-- the refuted alternative (a seeded change once made `run_map` collect its handles with
    `flat_map(|h| h.join())`): the panic is swallowed and a value is returned -/
theorem C14_swallowing_join_returns_a_value :
    RunnerP.runMapSwallow [WRes.ok 1, WRes.panicked, WRes.ok 3] = .ret [1, 3] := rfl

/-- non-vacuity: two workers, the second one evaluates the panicking invocation `⟨0, 12⟩` -/
example : (⟨[⟨1, 0, [10, 11]⟩, ⟨2, 2, [12]⟩], [1, 2], fun _ => 2⟩ : Exec).Accepts [10, 11, 12] ∧
    (⟨0, 12⟩ : Event) ∈ (Par.map {} ⟨[10, 11, 12], true⟩ (callW 0 (· + 1))).stream.log :=
  ⟨⟨⟨rfl, List.cons_ne_nil _ _, _, rfl, rfl, List.cons_ne_nil _ _, _, rfl, rfl⟩, by decide,
    by decide⟩, by decide⟩

end OrxPar
