/-
  C01 — Ordered collection equals sequential iteration.
  For every source, every chain of transformations and setters (any length, any closures, any
  parameter values at any position), every collect target, and every accepted execution of the
  terminal's runner — any tiling of the index range into chunks, any chunk-to-worker
  assignment, any number of workers (some possibly empty), any spawn order, any chunk size per
  worker (both code paths of every kernel) — `collect_vec`, `collect`, `collect_into(empty)`
  return exactly `seqVals`, the `List.map/filter/flatMap/filterMap` chain.
  `C01_every_schedule` shows that every schedule of the worker transition system produces an
  accepted execution, so "accepted execution" covers "every interleaving".
  Stages materialised by the eager sites: `C01_materialised_stage`.
-/
import OrxPar.Lemmas.Terminals
import OrxPar.Lemmas.Run
namespace OrxPar

/-- **C01.** all three collect flavours, every target kind -/
theorem C01_collect (s : Src) (ops : List Op) (ex : Exec) (h : (Par.build s ops).1.Ok ex)
    (t : Target) :
    (Par.build s ops).1.term ex (.collectInto t []) = .vals (seqVals s.items ops) :=
  build_term_spec s ops ex (.collectInto t []) h

theorem C01_collect_vec (s : Src) (ops : List Op) (ex : Exec) (h : (Par.build s ops).1.Ok ex) :
    (Par.build s ops).1.term ex .collectVec = .vals (seqVals s.items ops) :=
  C01_collect s ops ex h .vec

theorem C01_collect_splitvec (s : Src) (ops : List Op) (ex : Exec) (h : (Par.build s ops).1.Ok ex) :
    (Par.build s ops).1.term ex .collect = .vals (seqVals s.items ops) :=
  C01_collect s ops ex h .splitVec

/-- the specification stream and the plain list semantics coincide -/
theorem C01_spec_is_std (src : List Val) (ops : List Op) : seqChain src ops = seqVals src ops :=
  seqStream_vals src ops

/-- **C01 (materialised stages).** what an eager site materialises equals `collect_vec` of that
    stage under *any* accepted execution of it: the model's use of the sequential evaluation at
    the eager sites loses no behaviour -/
theorem C01_materialised_stage (P : Par) (ex : Exec) (h : P.Ok ex) :
    P.core ex (.collectInto .vec []) = .vals (P.collectEager).1.items :=
  P.core_collectInto ex h .vec []

/-- **C01 (every interleaving).** every finished run of the worker transition system — every
    schedule, every number of workers and chunk sizes ≥ 1 — is an accepted execution -/
theorem C01_every_schedule (xs : List Val) (cs : List Nat) (hne : cs ≠ []) (hpos : ∀ c ∈ cs, 0 < c)
    (sched : List Nat)
    (hd : Run.AllDone (Run.run (Run.init (Run.ofList xs) (some xs.length) (fun _ => false) cs) sched)) :
    (Run.execOf (Run.run (Run.init (Run.ofList xs) (some xs.length) (fun _ => false) cs) sched)).Accepts xs :=
  Run.run_accepts_full xs cs hne hpos sched hd

/-- **C01 (end to end).** chain + any schedule of the terminal's runner -/
theorem C01_collect_all_schedules (s : Src) (ops : List Op) (cs : List Nat) (hne : cs ≠ [])
    (hpos : ∀ c ∈ cs, 0 < c) (sched : List Nat) (t : Target)
    (hd : Run.AllDone (Run.run (Run.init (Run.ofList (Par.build s ops).1.src.items)
      (some (Par.build s ops).1.src.items.length) (fun _ => false) cs) sched)) :
    (Par.build s ops).1.term
      (Run.execOf (Run.run (Run.init (Run.ofList (Par.build s ops).1.src.items)
        (some (Par.build s ops).1.src.items.length) (fun _ => false) cs) sched))
      (.collectInto t []) = .vals (seqVals s.items ops) :=
  C01_collect s ops _ (Or.inr (C01_every_schedule _ cs hne hpos sched hd)) t

/-- what the workers of `map_col` write when the iterator's indices start at `b`: element `i` of
    the remaining input goes to position `offset + (b + i)` -/
def mapColWritesFrom (m : Val → Val) (offset b : Nat) (xs : List Val) : List (Nat × Val) :=
  (xs.zipIdx b).map fun p => (offset + p.2, m p.1)

/-- **known finding F (partially consumed concurrent iterator).** if the iterator handed to
    `into_par()` has already yielded `b > 0` elements, `map_col` writes element `i` of the
    remainder at `offset + b + i` while the bag was sized for the remainder: whatever the order of
    the writes, finishing the bag fails (the call panics) as soon as the remainder is non-empty;
    with `b = 0` the same writes are accepted and give `pre ++ xs.map m` -/
theorem C01_partial_source_finding (m : Val → Val) (pre xs : List Val) (b : Nat) (hb : 0 < b)
    (hne : xs ≠ []) (writes : List (Nat × Val))
    (hw : writes.Perm (mapColWritesFrom m pre.length b xs)) : K.bagFinish pre writes = none := by
  obtain ⟨ys, y, rfl⟩ : ∃ ys y, xs = ys ++ [y] := ⟨_, _, (List.dropLast_concat_getLast hne).symm⟩
  -- the write of the last element lies beyond the reserved length
  refine bagFinish_gap pre writes (pre.length + (b + ys.length), m y) (hw.mem_iff.2 ?_) ?_
  · rw [mapColWritesFrom, List.zipIdx_append, List.map_append]
    exact List.mem_append_right _ (List.mem_singleton.2 rfl)
  · rw [hw.length_eq, mapColWritesFrom, List.length_map, List.length_zipIdx, List.length_append,
      List.length_singleton, Nat.add_comm b]
    exact Nat.add_le_add_left (Nat.add_le_add_left hb _) _

theorem C01_fresh_source_ok (m : Val → Val) (pre xs : List Val) (writes : List (Nat × Val))
    (hw : writes.Perm (mapColWritesFrom m pre.length 0 xs)) :
    K.bagFinish pre writes = some (pre ++ xs.map m) := by
  apply bagFinish_of_perm
  refine hw.trans (List.Perm.of_eq ?_)
  unfold mapColWritesFrom
  rw [List.zipIdx_map, List.map_map]
  rfl

/-- non-vacuity: three workers, the one spawned second holds chunk 0 and the last chunk, the third
    got nothing; chunk sizes 2, 1, 5 -/
example : ({ asg := [⟨2, 0, [10, 11]⟩, ⟨1, 2, [12, 13]⟩, ⟨2, 4, [14]⟩], order := [1, 2, 3],
             cs := fun t => [2, 1, 5].getD (t - 1) 1 } : Exec).Accepts [10, 11, 12, 13, 14] :=
  ⟨⟨rfl, List.cons_ne_nil _ _, _, rfl, rfl, List.cons_ne_nil _ _, _, rfl, rfl, List.cons_ne_nil _ _,
    _, rfl, rfl⟩, by decide, by decide⟩

/-- … and a finishing schedule of the transition system in which worker 1 pulls first -/
example : Run.AllDone (Run.run (Run.init (Run.ofList [10, 11, 12]) (some 3) (fun _ => false) [2, 2, 5])
    [1, 1, 0, 1, 0, 0, 2, 1, 0, 1, 0]) := by decide

end OrxPar
