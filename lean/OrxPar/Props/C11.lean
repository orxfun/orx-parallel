/-
  C11 — ChunkSize::Exact(c): every pull takes exactly c elements.
  (a) `calc_chunk_size` resolves `Exact(c)` to itself; (b) under `Exact(c)` every worker ever
  spawned — in the first period, after any number of lag periods, and the final one — is handed
  `c`, whatever `has_more()` reports at any time (i.e. for every progress pattern of the other
  workers); (c) a worker pulls with its chunk size for its whole life and the iterator hands out
  consecutive blocks, so every pull has begin `k·c` and length `min c (len − k·c)`
  (`C11_pulls`, on the worker transition system of `Model/Run.lean`, for every schedule), hence
  all positions of an aligned block are pulled by one worker (`C11_blocks`); `C11_end_to_end`
  composes (b) and (c).
-/
import OrxPar.Lemmas.Spawn
import OrxPar.Lemmas.Run
namespace OrxPar

/-- **C11 (resolved).** -/
theorem C11_resolved (k : Consts) (task : Task) (len : Option Nat) (threads c : Nat) (hc : 0 < c) :
    calcChunkSize k task len threads (.exact c) = some (.exact c) :=
  if_pos hc

/-- **C11 (runner).** `Runner::new` with `Exact(c)` keeps `c`, for every `NumThreads`, task,
    input length, and `available_parallelism` -/
theorem C11_runner (k : Consts) (nt : NumThreads) (task : Task) (len : Option Nat) (avail c : Nat)
    (hc : 0 < c) :
    ∃ r, mkRunner k ⟨nt, .exact c⟩ task len avail = some r ∧ r.chunk = .exact c := by
  unfold mkRunner
  simp only [C11_resolved k task len _ c hc, Option.map_some]
  exact ⟨_, rfl, rfl⟩

/-- **C11 (next_chunk_size).** never changes an exact chunk -/
theorem C11_next_chunk (r : Runner) (c n : Nat) (h : HasMore) (hc : r.chunk = .exact c) (x : Nat)
    (hx : r.nextChunkSize n h = some x) : x = c := (r.nextChunkSize_some n h x hx).2.2 c hc

/-- **C11 (workers).** every worker the spawner ever creates is handed `c`, for every stream of
    `has_more()` observations and every lag periodicity -/
theorem C11_workers (r : Runner) (lag : Nat) (env : Nat → HasMore) (c : Nat)
    (hc : r.chunk = .exact c) (s : Sp) (hr : spRun r lag env = some s) : ∀ w ∈ s.workers, w = c :=
  workers_exact r lag env (r.maxThreads + 1) c hc s hr

namespace Run

/-- what `C11_pulls` says of one pull `e`; `C11_pulls` states it unfolded, the two are the same by
    definition -/
def ExactPull (src : Nat → Val) (l c : Nat) (e : Chunk) : Prop :=
  c ∣ e.start ∧ e.start < l ∧ e.items.length = Nat.min c (l - e.start) ∧
    e.items = slice src e.start (Nat.min c (l - e.start))

/-- the invariant behind `C11_pulls` -/
structure PInv (s : State) (l n c : Nat) : Prop where
  len : s.len = some l
  dvd : c ∣ s.pos
  cs : HasCs (List.replicate n c) s
  log : ∀ e ∈ s.log, ExactPull s.src l c e

theorem step_pinv (s : State) (l n c : Nat) (h : PInv s l n c) (t : Nat) :
    PInv (step s t) l n c := by
  have f := step_frame s t
  -- only a pull moves the position or adds to the log
  have key : c ∣ (step s t).pos ∧ ∀ e ∈ (step s t).log, e ∈ s.log ∨ ExactPull s.src l c e := by
    apply step_cases s t
      (P := fun s' => c ∣ s'.pos ∧ ∀ e ∈ s'.log, e ∈ s.log ∨ ExactPull s.src l c e)
      ⟨h.dvd, fun _ => Or.inl⟩ (fun _ _ _ _ _ => ⟨h.dvd, fun _ => Or.inl⟩)
    intro w hw _ _ _ hn
    have hwc : w.c = c :=
      List.eq_of_mem_replicate (h.cs ▸ List.mem_map_of_mem (List.mem_of_getElem? hw))
    have hlt : s.pos < l :=
      Nat.lt_of_not_le fun hle => hn (avail_eq_zero.2 (Or.inr ⟨l, h.len, hle⟩))
    refine ⟨?_, fun e he => (List.mem_append.1 he).imp id fun he => ?_⟩
    · show c ∣ s.pos + w.c
      rw [hwc]
      exact (Nat.dvd_add_right h.dvd).2 (Nat.dvd_refl c)
    · rw [List.mem_singleton.1 he, h.len, hwc]
      exact ⟨h.dvd, hlt, slice_length _ _ _, rfl⟩
  exact ⟨f.len.trans h.len, key.1, h.cs.step t, fun e he =>
    f.src ▸ (key.2 e he).elim (h.log e) id⟩

end Run

/-- **C11 (pulls).** workers that all hold chunk size `c`, over a source of length `l`, under
    every schedule (any interleaving of pulls and evaluations, early exit included): every pull
    starts at a multiple of `c`, lies inside the source and takes exactly `min c (l − start)`
    consecutive elements — i.e. `c`, except for the one pull that reaches the end -/
theorem C11_pulls (src : Nat → Val) (l : Nat) (hit : Val → Bool) (n c : Nat) (hc : 0 < c)
    (sched : List Nat) :
    ∀ e ∈ (Run.run (Run.init src (some l) hit (List.replicate n c)) sched).log,
      c ∣ e.start ∧ e.start < l ∧ e.items.length = Nat.min c (l - e.start) ∧
      e.items = Run.slice src e.start (Nat.min c (l - e.start)) := by
  have h := Run.run_induction (s := Run.init src (some l) hit (List.replicate n c))
    (fun s t h => Run.step_pinv s l n c h t) ⟨rfl, Nat.dvd_zero c, Run.init_cs .., nofun⟩ sched
  intro e he
  have := h.log e he
  rw [(Run.run_frame _ sched).src] at this
  exact this

/-- **C11 (aligned blocks).** consequently every position of an aligned block `[k·c, (k+1)·c)`
    belongs to the pull — hence to the worker — that holds the block's first position -/
theorem C11_blocks (src : Nat → Val) (l : Nat) (hit : Val → Bool) (n c : Nat) (hc : 0 < c)
    (sched : List Nat) (e : Chunk)
    (he : e ∈ (Run.run (Run.init src (some l) hit (List.replicate n c)) sched).log) (i : Nat)
    (hi : e.start ≤ i ∧ i < e.start + e.items.length) : i / c = e.start / c := by
  obtain ⟨⟨k, hk⟩, _, hlen, _⟩ := C11_pulls src l hit n c hc sched e he
  have hle : e.items.length ≤ c := hlen ▸ Nat.min_le_left _ _
  have hr : i - e.start < c :=
    Nat.sub_lt_left_of_lt_add hi.1 (Nat.lt_of_lt_of_le hi.2 (Nat.add_le_add_left hle _))
  -- `i = c * k + r` with `r < c`
  rw [← Nat.add_sub_cancel' hi.1, hk, Nat.mul_add_div hc, Nat.mul_div_cancel_left k hc,
    Nat.div_eq_of_lt (hk ▸ hr)]
  rfl

/-- **C11 (end to end).** `Exact(c)` in the runner ⇒ whatever the spawner observes, the workers
    it creates all hold `c` ⇒ under every schedule of those workers every pull is an aligned
    block of exactly `c` elements (the last one possibly shorter) -/
theorem C11_end_to_end (r : Runner) (lag : Nat) (env : Nat → HasMore) (c : Nat) (hc : 0 < c)
    (hr : r.chunk = .exact c) (s : Sp) (hs : spRun r lag env = some s)
    (src : Nat → Val) (l : Nat) (hit : Val → Bool) (sched : List Nat) :
    ∀ e ∈ (Run.run (Run.init src (some l) hit s.workers) sched).log,
      c ∣ e.start ∧ e.items.length = Nat.min c (l - e.start) := by
  have hw : s.workers = List.replicate s.workers.length c :=
    List.eq_replicate_iff.mpr ⟨rfl, C11_workers r lag env c hr s hs⟩
  rw [hw]
  intro e he
  have := C11_pulls src l hit s.workers.length c hc sched e he
  exact ⟨this.1, this.2.2.1⟩

/-- non-vacuity: `Max(6)` over 100 elements with `Exact(3)`, workers progressing between the
    spawner's observations: six workers, all with chunk 3 -/
example : (spRun ⟨some 100, 6, .exact 3⟩ 4 (fun i => .yes (100 - 7 * i))).map (·.workers)
    = some [3, 3, 3, 3, 3, 3] := by decide

/-- the contrast: the same run under `Min(3)` grows the chunk after the first period -/
example : (spRun ⟨some 100, 6, .min 3⟩ 4 (fun i => .yes (100 - 7 * i))).map (·.workers)
    = some [3, 3, 3, 3, 6, 6] := by decide

end OrxPar
