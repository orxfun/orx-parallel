/-
  C02 — find/first/any/all answer with the first match in source order.
  For every chain, every predicate and every accepted find-execution — the evaluated chunks tile
  a prefix of the source that is either everything or contains a match; which worker holds
  which chunk, who finds what first and in which order the workers were spawned is arbitrary —
  the result is the *first* match of the sequential stream, `none` iff there is none; the
  `*_with_index` variants report the least source position whose output matches.
  `C02_every_schedule`: every finished run of the transition system with the early-exit flag
  (a finder publishes `skip_to_end` arbitrarily late) is such an execution.
-/
import OrxPar.Lemmas.Terminals
import OrxPar.Lemmas.Run
namespace OrxPar

/-- **C02 (find).** -/
theorem C02_find (s : Src) (ops : List Op) (ex : Exec) (q : Val → Bool)
    (h : (Par.build s ops).1.OkFind ex q) :
    (Par.build s ops).1.term ex (.find q) = .opt ((seqVals s.items ops).find? q) :=
  build_term_spec s ops ex (.find q) h

/-- **C02 (first).** -/
theorem C02_first (s : Src) (ops : List Op) (ex : Exec)
    (h : (Par.build s ops).1.OkFind ex (fun _ => true)) :
    (Par.build s ops).1.term ex .first = .opt (seqVals s.items ops).head? :=
  build_term_spec s ops ex .first h

/-- **C02 (any).** -/
theorem C02_any (s : Src) (ops : List Op) (ex : Exec) (q : Val → Bool)
    (h : (Par.build s ops).1.OkFind ex q) :
    (Par.build s ops).1.term ex (.any q) = .bool ((seqVals s.items ops).any q) :=
  build_term_spec s ops ex (.any q) h

/-- **C02 (all).** `all p` is evaluated as "no element satisfies `¬p`" -/
theorem C02_all (s : Src) (ops : List Op) (ex : Exec) (q : Val → Bool)
    (h : (Par.build s ops).1.OkFind ex (fun x => !q x)) :
    (Par.build s ops).1.term ex (.all q) = .bool ((seqVals s.items ops).all q) :=
  build_term_spec s ops ex (.all q) h

/-- **C02 (find_with_index).** on the types that have it: the least source position (of the
    current phase's source) whose output matches, with that output -/
theorem C02_find_idx (P : Par) (ex : Exec) (q : Val → Bool) (hs : P.hasIdx = true)
    (h : P.OkFind ex q) : P.term ex (.findIdx q) = .optIdx (specIdx P q) :=
  Par.core_findIdx_supported P ex q hs h

/-- the value reported together with the index is the sequential `find` result -/
theorem C02_idx_value (s : Src) (ops : List Op) (q : Val → Bool) :
    (specIdx (Par.build s ops).1 q).map (·.2) = (seqVals s.items ops).find? q := by
  rw [specIdx_value, build_stream_vals]

/-- **known finding G (partially consumed concurrent iterator, sequential mode).** the parallel
    kernels report the index the iterator hands out — for an iterator that has already yielded
    `b` elements, `b +` the position among the remaining ones, i.e. the position in the original
    source — while the sequential path enumerates the remainder from 0: the two differ by `b` -/
theorem C02_with_index_partial_source_finding (m : Val → Val) (f : Val → Bool) (xs : List Val) (b : Nat) :
    (((xs.map m).zipIdx b).findSome? fun p => if f p.1 then some (p.2, p.1) else none)
      = (K.seqMapFilFind m f xs).map fun r => (b + r.1, r.2) := by
  rw [K.seqMapFilFind, List.zipIdx_eq_map_add, List.findSome?_map, List.map_findSome?]
  congr 1; funext p
  cases h : f p.1 <;> simp [h]

/-- **C02 (every interleaving).** every finished run of the transition system with early exit
    over a finite source is an accepted find-execution -/
theorem C02_every_schedule (xs : List Val) (hit : Val → Bool) (cs : List Nat) (hne : cs ≠ [])
    (hpos : ∀ c ∈ cs, 0 < c) (sched : List Nat)
    (hd : Run.AllDone (Run.run (Run.init (Run.ofList xs) (some xs.length) hit cs) sched)) :
    (Run.execOf (Run.run (Run.init (Run.ofList xs) (some xs.length) hit cs) sched)).AcceptsFind xs hit := by
  have := Run.run_accepts_find (Run.ofList xs) (some xs.length) hit cs hne hpos sched hd xs.length
    (Or.inl rfl)
  rw [Run.slice_ofList] at this
  exact ⟨_, this⟩

/-- **C02 (end to end).** any chain, then any schedule of the early-exit transition system over
    the source of the final phase with the pipeline's own hit function: `find` returns the first
    match of the sequential stream -/
theorem C02_find_all_schedules (s : Src) (ops : List Op) (q : Val → Bool) (cs : List Nat)
    (hne : cs ≠ []) (hpos : ∀ c ∈ cs, 0 < c) (sched : List Nat)
    (hd : Run.AllDone (Run.run (Run.init (Run.ofList (Par.build s ops).1.src.items)
      (some (Par.build s ops).1.src.items.length) ((Par.build s ops).1.hit q) cs) sched)) :
    (Par.build s ops).1.term
      (Run.execOf (Run.run (Run.init (Run.ofList (Par.build s ops).1.src.items)
        (some (Par.build s ops).1.src.items.length) ((Par.build s ops).1.hit q) cs) sched))
      (.find q) = .opt ((seqVals s.items ops).find? q) :=
  C02_find s ops _ q (Or.inr (C02_every_schedule _ _ cs hne hpos sched hd))

/-- what each worker reports is the first match among the elements of its own chunks -/
theorem C02_worker_reports_first (src : Nat → Val) (len : Option Nat) (hit : Val → Bool)
    (cs : List Nat) (hpos : ∀ c ∈ cs, 0 < c) (sched : List Nat)
    (hd : Run.AllDone (Run.run (Run.init src len hit cs) sched)) (t : Nat) (w : Run.Worker)
    (hw : (Run.run (Run.init src len hit cs) sched).ws[t]? = some w) :
    w.found = (Run.elemsOf (Run.run (Run.init src len hit cs) sched).log t).find? (fun p => hit p.2) := by
  have hwi := (Run.run_inv _ sched (Run.init_inv src len hit cs hpos)).ws t w hw
  have h := hwi.reports (hwi.fin (hd w (List.mem_of_getElem? hw))).1
  rwa [(Run.run_frame _ sched).hit] at h

/-- non-vacuity: the worker spawned last (3) holds chunk 0 with the true first match (value 11 at
    index 1), worker 2 holds a later match (14 at index 4) -/
example : ({ asg := [⟨3, 0, [10, 11]⟩, ⟨1, 2, [12, 13]⟩, ⟨2, 4, [14, 15]⟩], order := [1, 2, 3],
             cs := fun _ => 2 } : Exec).AcceptsFind [10, 11, 12, 13, 14, 15, 16, 17]
      (fun x => x == 11 || x == 14) :=
  ⟨6, ⟨rfl, List.cons_ne_nil _ _, _, rfl, rfl, List.cons_ne_nil _ _, _, rfl, rfl, List.cons_ne_nil _ _,
    _, rfl, rfl⟩, by decide, by decide, Or.inr ⟨11, by decide, rfl⟩⟩

/-- … and a schedule of the transition system producing such a history: worker 1 pulls chunk
    `[12,13]` first, … the finder of the later match publishes before the holder of index 1 is done -/
example : Run.AllDone (Run.run (Run.init (Run.ofList [10, 11, 12, 13, 14, 15, 16, 17]) (some 8)
    (fun x => x == 11 || x == 14) [2, 2, 2]) [2, 0, 1, 1, 1, 2, 1, 0, 0, 2, 2, 0, 0, 2]) := by
  decide

end OrxPar
