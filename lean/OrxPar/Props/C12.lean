/-
  C12 — Parameters propagate unchanged through every transformation.
  `params()` always reports the last `num_threads` / `chunk_size` values set anywhere in the
  chain (defaults Auto/Auto; 0 ↦ Auto, n>0 ↦ Max(n) / Exact(n)); `is_sequential()` ⇔ Max(1).
  Quantifiers: every source, every list of transformations and setters (any length), every
  closure, every value.  By induction over the op list from `Par.applyT_params` (the 8×4 sites and
  the setters).
-/
import OrxPar.Model.Par
namespace OrxPar

/-- the effect of one call on the parameters, as the property states it -/
def stepParams (p : Params) : Op → Params
  | .numThreads v => { numThreads := v, chunkSize := p.chunkSize }
  | .chunkSize v => { numThreads := p.numThreads, chunkSize := v }
  | _ => p

@[simp] theorem Par.params_setParams (P : Par) (q : Params) : (P.setParams q).params = q := by
  cases P <;> rfl

/-- all 32 (type, transformation) sites, and the two setters on any type (the last two
    alternatives of `Par.applyT`) -/
theorem Par.applyT_params (P : Par) (op : Op) : (P.applyT op).1.params = stepParams P.params op := by
  fun_cases Par.applyT P op with
  | case33 | case34 => exact P.params_setParams _
  | _ => rfl

/-- **C12 (fold form).** `params()` of any built computation is the left fold of the setter
    calls over the defaults; transformations do not touch it. -/
theorem C12_params_fold (s : Src) (ops : List Op) :
    (Par.build s ops).1.params = ops.foldl stepParams {} :=
  List.foldl_rel (g := stepParams) (r := fun (acc : Par × List Event) p => acc.1.params = p) rfl
    fun op _ acc _ h => (Par.applyT_params acc.1 op).trans (congrArg (stepParams · op) h)

/-- the last value set by a `num_threads` call, scanning left to right -/
def lastNt (init : NumThreads) : List Op → NumThreads
  | [] => init
  | .numThreads v :: ops => lastNt v ops
  | _ :: ops => lastNt init ops

def lastCs (init : ChunkSize) : List Op → ChunkSize
  | [] => init
  | .chunkSize v :: ops => lastCs v ops
  | _ :: ops => lastCs init ops

theorem foldl_stepParams (ops : List Op) (p : Params) :
    ops.foldl stepParams p = ⟨lastNt p.numThreads ops, lastCs p.chunkSize ops⟩ := by
  induction ops generalizing p with
  | nil => rfl
  | cons op ops ih =>
    rw [List.foldl_cons, ih]
    cases op <;> rfl

/-- **C12.** `params()` reports the last `num_threads` and the last `chunk_size` set anywhere in
    the chain, `Auto` where none was set — for every chain on all eight types. -/
theorem C12_params (s : Src) (ops : List Op) :
    (Par.build s ops).1.params = ⟨lastNt .auto ops, lastCs .auto ops⟩ := by
  rw [C12_params_fold, foldl_stepParams]

/-- **C12 (conversions).** `0 ↦ Auto`, `n > 0 ↦ Max(n)` / `Exact(n)` -/
theorem C12_ofNat (n : Nat) :
    NumThreads.ofNat 0 = .auto ∧ ChunkSize.ofNat 0 = .auto ∧
    (0 < n → NumThreads.ofNat n = .max n ∧ ChunkSize.ofNat n = .exact n) := by
  refine ⟨rfl, rfl, ?_⟩
  intro h
  cases n with
  | zero => exact absurd h (Nat.lt_irrefl 0)
  | succ n => exact ⟨rfl, rfl⟩

/-- **C12 (is_sequential).** true exactly for `Max(1)` -/
theorem C12_is_sequential (p : Params) : p.isSequential = true ↔ p.numThreads = .max 1 := by
  unfold Params.isSequential
  exact beq_iff_eq

/-- non-vacuity: a chain through an eager site (`filter` then `flat_map`) with setters at three
    positions; the last values win -/
example :
    (Par.build ⟨[1, 2, 3], true⟩
      [.numThreads (.max 4), .filter 0 (· != 2), .chunkSize (ChunkSize.ofNat 3),
       .flatMap 1 (fun x => [x, x]), .numThreads (NumThreads.ofNat 0), .map 2 (· + 1)]).1.params
      = ⟨.auto, .exact 3⟩ := by
  rw [C12_params]; rfl

end OrxPar
