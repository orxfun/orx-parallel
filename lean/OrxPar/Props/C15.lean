/-
  C15 — Parameters never change a result or make a computation fail (arithmetic part).
  For every input length, every thread count ≥ 1, every `ChunkSize` (the `NonZeroUsize`
  carried by `Min`/`Exact` is the hypothesis `cs.WF`) and all admissible constants:
  `Runner::new` never panics (`validate` never fires), the resolved chunk size and the maximal
  thread count are positive, `div_ceil` is never called with a zero divider, the halving
  search terminates (the function is defined by well-founded recursion on the chunk),
  and `next_chunk_size` neither underflows nor divides by zero as long as the remaining
  length reported by the iterator does not exceed the input length.
  The independence of the *results* from the parameters is C01–C07/C09 (they hold for every
  worker set with positive chunk sizes).
-/
import OrxPar.Lemmas.Spawn
import OrxPar.Model.Wrap
namespace OrxPar

/-- **C15 (chunk size positive).** `calc_chunk_size` returns a positive chunk for all inputs -/
theorem C15_chunk_pos (k : Consts) (hk : k.Admissible) (task : Task) (len : Option Nat)
    (threads : Nat) (ht : 0 < threads) (cs : ChunkSize) (hcs : cs.WF) :
    ∃ r, calcChunkSize k task len threads cs = some r ∧ 0 < r.inner :=
  ⟨_, calcChunkSize_eq_some k hk task len threads ht cs hcs,
    calcChunkSizeRaw_pos k hk task len threads ht cs hcs⟩

/-- **C15 (Runner::new total).** for every `Params` (any `NumThreads`, any `ChunkSize`), every
    task, every input length (also unknown) and every `available_parallelism` -/
theorem C15_runner_total (k : Consts) (hk : k.Admissible) (p : Params) (hcs : p.chunkSize.WF)
    (task : Task) (len : Option Nat) (avail : Nat) :
    ∃ r, mkRunner k p task len avail = some r ∧ 1 ≤ r.maxThreads ∧ 0 < r.chunk.inner :=
  ⟨_, mkRunner_eq k hk p hcs task len avail, Nat.le_max_right _ _,
    calcChunkSizeRaw_pos k hk task len _ (Nat.le_max_right _ 1) p.chunkSize hcs⟩

/-- **C15 (the halving search is bounded).** it never returns more than it started from and
    never 0 -/
theorem C15_find_chunk_bounds (k : Consts) (hk : k.Admissible) (task : Task) (len nt : Nat) :
    0 < findChunk k task len nt k.initialChunk ∧ findChunk k task len nt k.initialChunk ≤ k.initialChunk :=
  ⟨findChunk_pos _ _ _ _ _ hk.2.1, findChunk_le _ _ _ _ _⟩

/-- **C15 (`Min(c)` on a known length).** the resolved chunk never exceeds `max c ⌈len/threads⌉`
    and for a non-empty input one round of it covers at most `len + threads` elements when it was
    rescaled -/
theorem C15_min_chunk_le (len nt c : Nat) (hnt : 0 < nt) (hl : 0 < len) :
    minChunkSize (some len) nt c ≤ Nat.max c len := by
  unfold minChunkSize
  cases len with
  | zero => exact absurd hl (Nat.lt_irrefl 0)
  | succ n =>
    simp only
    split
    · exact Nat.le_trans (divCeil_le _ _ hnt) (Nat.le_max_right _ _)
    · exact Nat.le_max_left _ _

/-- **C15 (`next_chunk_size` total).** no underflow, no division by zero, positive result -/
theorem C15_next_chunk_total (r : Runner) (n : Nat) (h : HasMore) (hc : 0 < r.chunk.inner)
    (hrem : ∀ rem, h = .yes rem → rem ≤ r.inputLen.getD usizeMax) :
    r.nextChunkSizePanics n h = false ∧ ∀ x, r.nextChunkSize n h = some x → 0 < x :=
  ⟨r.nextChunkSize_no_panic n h hc hrem, r.nextChunkSize_pos n h hc⟩

/-- **C15 (the spawn loop terminates).** with `LAG_PERIODICITY ≥ 1` the `'lag_period` loop ends
    within `max_num_threads` periods whatever the iterator reports -/
theorem C15_spawner_terminates (r : Runner) (lag : Nat) (hl : 1 ≤ lag) (env : Nat → HasMore) :
    (spRun r lag env).isSome := spRun_isSome r lag hl env

/-- **C15 (usize range).** under the stated bounds no intermediate product of
    `calc_chunk_size` exceeds `usize::MAX` (the bounds describe the region the known findings
    exclude: `len < 2^63`, `threads ≤ 2^16`, constants as pinned) -/
theorem C15_in_range (task : Task) (chunk nt : Nat) (hc : chunk ≤ 2 ^ 20) (ht : nt ≤ 2 ^ 16) :
    minRequiredLen Consts.pinned task (chunk * nt) ≤ usizeMax := by
  -- every multiplier of the pinned constants is at most 8
  have h : minRequiredLen Consts.pinned task (chunk * nt) ≤ chunk * nt * 8 := by
    cases task <;> exact Nat.mul_le_mul_left _ (by decide)
  exact Nat.le_trans h (Nat.le_trans (Nat.mul_le_mul_right 8 (Nat.mul_le_mul hc ht)) (by decide))

/-- without wrap-around a pull hands out the block at `counter`, if any, and the next pull starts
    at `counter + c` -/
theorem Wrap.pulls_succ (c len k counter : Nat) (h : counter + c < Wrap.W64) :
    Wrap.pulls c len (k + 1) counter =
      (if counter < len then [(counter, Nat.min c (len - counter))] else []) ++
        Wrap.pulls c len k (counter + c) := by
  by_cases hb : counter < len <;> simp [Wrap.pulls, Wrap.pull, Nat.mod_eq_of_lt h, hb]

/-- **C15 (position counter).** the dependency advances a wrapping `usize` counter by `c` per pull.
    As long as `counter + k·c < 2^64` for the pulls made (any source shorter than 2^63 with
    `c < 2^63/(k+1)`), the chunks handed out start at `counter, counter + c, …`, lie inside the
    source and are pairwise disjoint — the contract `Tiles` of the result theorems -/
theorem C15_counter_no_wrap (c len : Nat) (hc : 0 < c) (k counter : Nat)
    (h : counter + k * c < Wrap.W64) :
    ∀ ch ∈ Wrap.pulls c len k counter, counter ≤ ch.1 ∧ ch.1 < len ∧ ch.1 + ch.2 ≤ len ∧
      (ch.1 - counter) % c = 0 := by
  induction k generalizing counter with
  | zero => exact nofun
  | succ k ih =>
    intro ch hch
    rw [Nat.succ_mul, ← Nat.add_assoc, Nat.add_right_comm] at h
    rw [Wrap.pulls_succ c len k counter (Nat.lt_of_le_of_lt (Nat.le_add_right _ _) h), List.mem_append] at hch
    rcases hch with hch | hch
    · split at hch
      · rename_i hb
        cases List.mem_singleton.1 hch
        exact ⟨Nat.le_refl _, hb, Nat.add_le_of_le_sub' (Nat.le_of_lt hb) (Nat.min_le_right _ _),
          by rw [Nat.sub_self]; rfl⟩
      · cases hch
    · obtain ⟨h1, h2, h3, h4⟩ := ih (counter + c) h ch hch
      refine ⟨Nat.le_trans (Nat.le_add_right _ _) h1, h2, h3, ?_⟩
      -- `ch.1 - counter = (ch.1 - (counter + c)) + c`
      rw [← Nat.sub_add_cancel (Nat.le_sub_of_add_le' h1), ← Nat.sub_add_eq, Nat.add_mod_right, h4]

/-- the known finding `C15 chunk-wrap:known-len-source:c>=2^63`, as a theorem about the model of
    the counter: 10 elements, `Exact(2^63)`: the third pull hands out `[0, 10)` a second time -/
theorem C15_known_finding_chunk_wrap : Wrap.pulls (2 ^ 63) 10 3 0 = [(0, 10), (0, 10)] :=
  by decide

/-- the pinned constants are admissible -/
example : Consts.pinned.Admissible := by decide

/-- non-vacuity: `Min(3)` with 4 threads on 10 elements is rescaled to ⌈10/4⌉ = 3; `Min(1000)` on
    7 elements with 3 threads becomes 3; an empty input gives 1 -/
example : calcChunkSize Consts.pinned .collect (some 10) 4 (.min 3) = some (.min 3)
    ∧ calcChunkSize Consts.pinned .reduce (some 7) 3 (.min 1000) = some (.min 3)
    ∧ calcChunkSize Consts.pinned .earlyReturn (some 0) 8 (.min 5) = some (.min 1) := by
  decide

end OrxPar
