/-
  C09 — Sequential mode is identical to std iterator execution.
  With `Max(1)` in effect every terminal returns exactly the value of the std chain — `reduce`
  and `fold` with an arbitrary (non-associative, non-commutative) operator give the
  left-to-right fold, `collect_x` gives the sequential order — whatever `chunk_size` is set to
  (the execution context is ignored), and every stage's closure sees its arguments in the order
  of the std chain.
-/
import OrxPar.Lemmas.Terminals
import OrxPar.Lemmas.Logged
namespace OrxPar
open K

/-- the terminals whose value is a function of the sequential stream alone -/
def Terminal.plain : Terminal → Bool
  | .findIdx _ | .firstIdx | .forEach => false
  | _ => true

theorem Par.exact_of_seq (P : Par) (ex : Exec) (h : P.params.isSequential = true) (t : Terminal)
    (ht : t.plain = true) : P.Exact ex t := by
  cases t with
  | forEach | findIdx | firstIdx => cases ht
  | minBy | maxBy | minByKey | maxByKey | collectX => exact h
  | _ => exact Or.inl h

/-- **C09 (values).** every plain terminal, any operator, any execution context, any chunk size -/
theorem C09_seq_value (s : Src) (ops : List Op) (ex : Exec)
    (h : (Par.build s ops).1.params.isSequential = true) (t : Terminal) (ht : t.plain = true) :
    (Par.build s ops).1.term ex t = specTerm (seqVals s.items ops) t :=
  build_term_spec s ops ex t (Par.exact_of_seq _ ex h t ht)

/-- **C09 (chunk size is irrelevant).** two executions that differ in everything (assignment,
    workers, chunk sizes) give the same value in sequential mode -/
theorem C09_context_irrelevant (s : Src) (ops : List Op) (ex ex' : Exec)
    (h : (Par.build s ops).1.params.isSequential = true) (t : Terminal) (ht : t.plain = true) :
    (Par.build s ops).1.term ex t = (Par.build s ops).1.term ex' t := by
  rw [C09_seq_value s ops ex h t ht, C09_seq_value s ops ex' h t ht]

/-- **C09 (index terminals).** -/
theorem C09_seq_find_idx (P : Par) (ex : Exec) (q : Val → Bool) (hs : P.hasIdx = true)
    (h : P.params.isSequential = true) : P.term ex (.findIdx q) = .optIdx (specIdx P q) :=
  Par.core_findIdx_supported P ex q hs (Or.inl h)

/-- **C09 (order of the invocations of every stage).** with pairwise distinct stage ids, stage `k`
    sees its arguments — those evaluated when an eager site materialised its upstream, then those
    of the final pipeline — in exactly the order of the std chain -/
theorem C09_stage_order (s : Src) (ops : List Op) (hd : (ops.filterMap Op.stageId?).Nodup) (k : Nat) :
    ((Par.build s ops).2 ++ (Par.build s ops).1.stream.log).filter (·.stage == k)
      = (seqStream s.items ops).log.filter (·.stage == k) := by
  refine Par.StageInv_foldl ops (Par.new s, []) _ ⟨?_, fun k => ?_, fun k _ => ?_⟩ hd k
  · rw [Par.new, Par.stream_empty]
  · rw [Par.new, Par.stream_empty]; rfl
  · rw [Prod.log_ofList]; rfl

/-- … and in sequential mode the terminal phase is the front-to-back evaluation of the stream -/
theorem C09_seq_log (P : Par) (ex : Exec) (h : P.params.isSequential = true) :
    P.fullLog ex = P.stream.log :=
  if_pos h

/-- non-vacuity: a non-associative, non-commutative operator (subtraction-like) in sequential
    mode gives the left fold `((10 - 3) - 2)`, with a chunk size and an execution context that
    would split the input -/
example :
    (Par.build ⟨[10, 3, 2], true⟩ [.numThreads (.max 1), .chunkSize (.exact 1)]).1.term
      { asg := [⟨2, 0, [10]⟩, ⟨1, 1, [3, 2]⟩], order := [1, 2], cs := fun _ => 1 }
      (.reduce fun a b => a - b) = .opt (some 5) := by
  rw [C09_seq_value _ _ _ (by rfl) _ (by rfl)]
  rfl

/-- **C09 (ties of the by-key selections).** the value `reduce` computes with the library's
    `max_by` / `max_by_key` operator is the LAST of the maximal elements, and with its `min_by` /
    `min_by_key` operator the FIRST of the minimal ones — what `Iterator::max_by(_key)` and
    `Iterator::min_by(_key)` are documented to return (since `fix:` commit dec7df0; before it the
    maximum was the first maximal element) -/
theorem C09_max_by_key_is_the_last_maximum (key : Val → Nat) (xs : List Val) (hne : xs ≠ []) :
    ∃ pre r post, xs = pre ++ r :: post ∧ K.reduceList (selMaxBy key) xs = some r ∧
      (∀ y ∈ pre, key y ≤ key r) ∧ (∀ y ∈ post, key y < key r) := by
  obtain ⟨pre, r, post, h, hr, h1, h2⟩ := reduce_sel_spec (fun x y => key x > key y)
    (fun _ _ _ h h' => Nat.not_lt.2 (Nat.le_trans (Nat.not_lt.1 h) (Nat.not_lt.1 h')))
    (fun _ _ _ h h' => Nat.not_lt.2 (Nat.le_trans (Nat.le_of_lt h) (Nat.not_lt.1 h'))) xs hne
  exact ⟨pre, r, post, h, hr, fun y hy => Nat.le_of_not_gt (h1 y hy), h2⟩

theorem C09_min_by_key_is_the_first_minimum (key : Val → Nat) (xs : List Val) (hne : xs ≠ []) :
    ∃ pre r post, xs = pre ++ r :: post ∧ K.reduceList (selMinBy key) xs = some r ∧
      (∀ y ∈ pre, key r < key y) ∧ (∀ y ∈ post, key r ≤ key y) := by
  obtain ⟨pre, r, post, h, hr, h1, h2⟩ := reduce_sel_spec (fun x y => key x ≤ key y)
    (fun _ _ _ h h' => Nat.not_le.2 (Nat.lt_trans (Nat.not_le.1 h') (Nat.not_le.1 h)))
    (fun _ _ _ h h' => Nat.not_le.2 (Nat.lt_of_lt_of_le (Nat.not_le.1 h') h)) xs hne
  exact ⟨pre, r, post, h, hr, fun y hy => Nat.lt_of_not_ge (h1 y hy), h2⟩

/-- the defect the fix repairs, on three jobs of priority 3, 1, 3: the old operator
    (`Greater | Equal => x`) selects the first one, std and the repaired operator the last -/
example : K.reduceList (selMaxBy (· / 10)) [30, 10, 31] = some 31 ∧
    K.reduceList (fun x y => if x / 10 ≥ y / 10 then x else y) [30, 10, 31] = some 30 := by decide

end OrxPar
