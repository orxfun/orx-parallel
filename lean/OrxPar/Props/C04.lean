/-
  C04 — count and for_each visit every surviving element exactly once.
  `count` = length of the sequential result; `for_each f` (= `map(f).count()`) invokes `f` on
  exactly the multiset of sequential results — for every chain and every accepted execution,
  both code paths of the three count kernels including the hand-written nested loop of
  `filtermap_fil_cnt`.
-/
import OrxPar.Lemmas.Terminals
namespace OrxPar

/-- **C04 (count).** -/
theorem C04_count (s : Src) (ops : List Op) (ex : Exec) (h : (Par.build s ops).1.Ok ex) :
    (Par.build s ops).1.term ex .count = .num (seqVals s.items ops).length :=
  build_term_spec s ops ex .count h

/-- the nested loop of `filtermap_fil_cnt` (chunk size 1) counts the survivors of whatever
    sequence of elements the worker receives -/
theorem C04_nested_loop (fm : Val → Option Val) (f : Val → Bool) (l : List Val) :
    K.filtermapFilCntOne fm f l = (l.filterMap (K.fmSurv fm f)).length :=
  filtermapFilCntOne_eq fm f l

/-- **C04 (for_each).** the arguments `f` is invoked with are, as a multiset, the sequential
    result.  `P'` is the pipeline after the `map(f)` site of `for_each`; the execution is that of
    its `count`.  Stage ids of the chain must differ from the one used for `f`. -/
theorem C04_for_each (s : Src) (ops : List Op) (ex : Exec)
    (hst : ∀ op ∈ ops, op.stage? ≠ some stForEach)
    (h : ((Par.build s ops).1.applyT (.map stForEach fun _ => 0)).1.Ok ex) :
    ∃ v, (Par.build s ops).1.term ex .forEach = .bag v ∧ v.Perm (seqVals s.items ops) := by
  have hfresh : ∀ e ∈ (Par.build s ops).1.stream.log, e.stage ≠ stForEach := by
    intro e he hs
    obtain ⟨op, hop, hk⟩ := seqStream_log_stages s.items ops e
      ((build_log_perm s ops).mem_iff.1 (List.mem_append_right _ he))
    exact hst op hop (by rw [hk, hs])
  refine ⟨_, ?_, .of_eq
    ((Par.applyT_map_args (Par.build s ops).1 _ (fun _ => 0) hfresh).trans
      (build_stream_vals s ops))⟩
  show (match ((Par.build s ops).1.applyT (.map stForEach fun _ => 0)).1.core ex .count with
    | .num _ => Outcome.bag _
    | o => o) = _
  rw [Par.core_count _ ex h]

/-- non-vacuity -/
example : ({ asg := [⟨1, 0, [4, 5, 6]⟩], order := [1, 2], cs := fun _ => 3 } : Exec).Accepts [4, 5, 6] :=
  ⟨⟨rfl, List.cons_ne_nil _ _, _, rfl, rfl⟩, by decide, by decide⟩

end OrxPar
