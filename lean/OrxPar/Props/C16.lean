/-
  C16 — Computations are lazy: nothing runs before the terminal call.
  A chain that avoids the eight eager sites has no construction effects: no closure runs and no
  source element is consumed while it is built and configured (`C16_lazy`), for every chain,
  source and parameter value; each of the eight eager sites runs the whole upstream pipeline at
  construction (`C16_eager_runs_upstream`) — these are recorded as known findings, measured on
  the real code on every run.
-/
import OrxPar.Lemmas.Logged
namespace OrxPar

/-- **C16.** -/
theorem C16_lazy (s : Src) (ops : List Op)
    (h : ∀ i (hi : i < ops.length), Par.isEagerSite (Par.build s (ops.take i)).1 ops[i] = false) :
    (Par.build s ops).2 = [] :=
  (Par.foldl_lazy ops _ h).1

/-- … and the source is untouched: the built pipeline is, structurally, the std chain over the
    original source -/
theorem C16_lazy_structure (s : Src) (ops : List Op)
    (h : ∀ i (hi : i < ops.length), Par.isEagerSite (Par.build s (ops.take i)).1 ops[i] = false) :
    (Par.build s ops).1.stream = seqStream s.items ops :=
  build_lazy_stream s ops h

/-- setters never run anything, on any type -/
theorem C16_setters_lazy (P : Par) (v : NumThreads) (c : ChunkSize) :
    (P.applyT (.numThreads v)).2 = [] ∧ (P.applyT (.chunkSize c)).2 = [] := by
  cases P <;> exact ⟨rfl, rfl⟩

/-- every lazy site: no effects, source unchanged -/
theorem C16_lazy_site (P : Par) (op : Op) (h : P.isEagerSite op = false) :
    (P.applyT op).2 = [] ∧ (P.applyT op).1.src = P.src :=
  (Par.applyT_lazy P op h).2

/-- the eight eager sites (known findings): the whole upstream pipeline runs at construction -/
theorem C16_eager_runs_upstream (P : Par) (op : Op) (h : P.isEagerSite op = true) :
    (P.applyT op).2 = P.stream.log ∧ (P.applyT op).1.src.items = P.stream.vals :=
  (Par.applyT_eager P op h).2

/-- `ParFilter::flat_map`, one of the eight eager sites -/
example : Par.isEagerSite (.fil {} ⟨[], true⟩ (pureW fun _ => true)) (.flatMap 0 fun _ => []) = true := rfl

/-- witness: `filter` then `flat_map` runs the filter on every element while the computation is
    being built -/
example : (Par.build ⟨[1, 2, 3], true⟩ [.filter 0 (· != 2), .flatMap 1 fun x => [x, x]]).2
    = [⟨0, 1⟩, ⟨0, 2⟩, ⟨0, 3⟩] := by decide

/-- non-vacuity of `C16_lazy`: a three-stage chain without eager sites -/
example : ∀ i (hi : i < 3), Par.isEagerSite
    (Par.build ⟨[1, 2], true⟩ (([.map 0 (· + 1), .filter 1 (· != 2), .map 2 (· * 2)] : List Op).take i)).1
    ([.map 0 (· + 1), .filter 1 (· != 2), .map 2 (· * 2)] : List Op)[i] = false := by
  decide

end OrxPar
