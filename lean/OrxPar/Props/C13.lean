/-
  C13 — Owned elements are dropped exactly once on all non-panicking paths.
  orx-parallel is safe Rust except for two protocols, which are modelled at the level of memory
  cells (`Model/Resources.lean`) and proved linear here:
  * the k-way merge of the workers' vectors (`heap_sort_into_vec/_pinned_vec`): every produced
    value is read out exactly once, in merge order, into the caller's collection; after
    `set_len(0)` dropping the vectors drops nothing; nothing is left behind;
  * the ordered bag of `map_col`: every position is written exactly once, the counts match, the
    caller receives the existing contents followed by the new values, nothing else.
  and the owning source of the dependency (modelled): every element is either taken by exactly
  one pull or dropped exactly once by `skip_to_end` / the iterator's `Drop` — including the
  elements skipped by early exit.
  Everything else (closures consuming their argument, `Vec` pushes, fragments of `collect_x`,
  intermediate `Vec`s of the eager sites) is ownership checked by the Rust compiler; it is
  observed at run time with a drop-counting item type, not modelled.
-/
import OrxPar.Lemmas.Resources
namespace OrxPar
open Res K

/-- **C13 (merge).** ledger of `heap_sort_into_vec`: out = existing contents ++ merged values, no
    drop, no leak, no bad event — for all sorted vectors with distinct keys -/
theorem C13_merge_ledger (pre : List Val) (tv : List (List (Key × Val)))
    (hs : ∀ v ∈ tv, SortedVec v) (hd : (tv.flatten.map (·.1)).Nodup) :
    heapSort true pre (cvecs tv) = { out := heapSortInto pre tv, dropped := [], leaked := [], bad := 0 } :=
  heapSort_ledger pre tv

/-- every produced token reaches the caller exactly once -/
theorem C13_merge_out (pre : List Val) (tv : List (List (Key × Val)))
    (hs : ∀ v ∈ tv, SortedVec v) (hd : (tv.flatten.map (·.1)).Nodup) :
    (heapSort true pre (cvecs tv)).out.Perm (pre ++ tv.flatten.map (·.2)) :=
  heapSort_ledger pre tv ▸ heapSortInto_perm pre tv

/-- why `set_len(0)` matters: without it every element is dropped a second time -/
theorem C13_merge_needs_set_len (pre : List Val) (tv : List (List (Key × Val)))
    (hs : ∀ v ∈ tv, SortedVec v) (hd : (tv.flatten.map (·.1)).Nodup) (hne : tv.flatten ≠ []) :
    0 < (heapSort false pre (cvecs tv)).bad :=
  heapSort_without_setLen0_bad pre tv hne

/-- **C13 (ordered bag).** the writes of any accepted execution, in any order -/
theorem C13_bag_ledger (pre toks : List Nat) (extra : Nat) (he : toks.length ≤ extra)
    (ws : List (Nat × Nat))
    (hperm : ws.Perm ((toks.zipIdx pre.length).map fun p => (p.2, p.1))) :
    ((Bag.new pre extra).writes ws).finish
      = some { out := pre ++ toks, dropped := [], leaked := [], bad := 0 } := by
  -- the writes commute, so take them in order of position: each fills the next free slot
  obtain ⟨e, rfl⟩ := Nat.exists_eq_add_of_le he
  rw [← Bag.writes_perm hperm.symm, Bag.new_writes, Bag.new_finish]
  · intro w hw
    obtain ⟨q, hq, rfl⟩ := List.mem_map.1 hw
    have := List.mem_zipIdx hq
    exact Bag.new_cells_right pre _ this.1
      (Nat.lt_of_lt_of_le this.2.1 (Nat.add_le_add_left (Nat.le_add_right _ _) _))
  · rw [List.map_map]
    exact (List.zipIdx_map_snd pre.length toks) ▸ List.nodup_range'

/-- **C13 (owning source, early exit included).** any sequence of pulls of any sizes and
    `skip_to_end` calls, then the iterator's drop: every element taken once or dropped once -/
theorem C13_source_ledger (toks : List Nat) (ops : List SrcOp) :
    let st := ops.foldl VecSrc.apply (VecSrc.new toks, [])
    let s' := st.1.drop
    (st.2 ++ s'.dropped).Perm toks ∧ s'.bad = 0 ∧ held s'.cells = [] :=
  src_ledger toks ops

/-- non-vacuity of the merge ledger: two workers' vectors -/
example : (heapSort true [9] (cvecs [[((0, 0), 10), ((3, 0), 13)], [((1, 0), 11), ((2, 0), 12)]])).out
    = [9, 10, 11, 12, 13] := by decide

end OrxPar
