/-
  C03 — reduce family combines every surviving element exactly once.
  `reduce` with an associative and commutative operator returns the sequential fold for every
  chain and every accepted execution (whatever the nesting chunk → worker → spawn order);
  `fold`, `sum`, `min`, `max` are instances; the by-key / by-comparison selections return, without
  assuming commutativity, one of the extremal survivors; the result is `none` (identity,
  default) iff nothing survives.
-/
import OrxPar.Lemmas.Terminals
namespace OrxPar
open K

/-- **C03 (reduce).** -/
theorem C03_reduce (s : Src) (ops : List Op) (ex : Exec) (h : (Par.build s ops).1.Ok ex)
    (op : Val → Val → Val) (hA : ∀ a b c, op (op a b) c = op a (op b c)) (hC : ∀ a b, op a b = op b a) :
    (Par.build s ops).1.term ex (.reduce op) = .opt (reduceList op (seqVals s.items ops)) :=
  build_term_spec s ops ex (.reduce op) (h.imp_right fun h => ⟨hA, hC, h⟩)

/-- `none` iff nothing survives -/
theorem C03_none_iff (op : Val → Val → Val) (l : List Val) : reduceList op l = none ↔ l = [] := by
  cases l <;> simp [reduceList]

/-- **C03 (fold).** the identity iff nothing survives -/
theorem C03_fold (s : Src) (ops : List Op) (ex : Exec) (h : (Par.build s ops).1.Ok ex)
    (op : Val → Val → Val) (identity : Val)
    (hA : ∀ a b c, op (op a b) c = op a (op b c)) (hC : ∀ a b, op a b = op b a) :
    (Par.build s ops).1.term ex (.fold op identity)
      = .opt (some ((reduceList op (seqVals s.items ops)).getD identity)) :=
  build_term_spec s ops ex (.fold op identity) (h.imp_right fun h => ⟨hA, hC, h⟩)

/-- **C03 (sum).** (wrapping addition of 64-bit values) -/
theorem C03_sum (s : Src) (ops : List Op) (ex : Exec) (h : (Par.build s ops).1.Ok ex) :
    (Par.build s ops).1.term ex .sum
      = .opt (some ((reduceList (fun x y => (x + y) % 2 ^ 64) (seqVals s.items ops)).getD 0)) :=
  build_term_spec s ops ex .sum h

/-- **C03 (min / max).** -/
theorem C03_min (s : Src) (ops : List Op) (ex : Exec) (h : (Par.build s ops).1.Ok ex) :
    (Par.build s ops).1.term ex .min = .opt (reduceList Nat.min (seqVals s.items ops)) :=
  build_term_spec s ops ex .min h

theorem C03_max (s : Src) (ops : List Op) (ex : Exec) (h : (Par.build s ops).1.Ok ex) :
    (Par.build s ops).1.term ex .max = .opt (reduceList Nat.max (seqVals s.items ops)) :=
  build_term_spec s ops ex .max h

/-- the library's `min_by_key` operator selects for `key a ≤ key b` -/
theorem selMinBy_isSel (key : Val → Nat) : IsSel (fun a b => key a ≤ key b) (selMinBy key) where
  refl _ := Nat.le_refl _
  trans _ _ _ := Nat.le_trans
  sel a b := by
    unfold selMinBy; split
    · exact .inl ⟨rfl, ‹_›⟩
    · exact .inr ⟨rfl, Nat.le_of_not_le ‹_›⟩

/-- … and its `max_by_key` operator for `key b ≤ key a` -/
theorem selMaxBy_isSel (key : Val → Nat) : IsSel (fun a b => key b ≤ key a) (selMaxBy key) where
  refl _ := Nat.le_refl _
  trans _ _ _ h1 h2 := Nat.le_trans h2 h1
  sel a b := by
    unfold selMaxBy; split
    · exact .inl ⟨rfl, Nat.le_of_lt ‹_›⟩
    · exact .inr ⟨rfl, Nat.le_of_not_lt ‹_›⟩

/-- **C03 (min_by_key, min_by).** one of the survivors with minimal key, `none` iff nothing
    survives — for every execution; ties may resolve either way -/
theorem C03_min_by_key (s : Src) (ops : List Op) (ex : Exec) (h : (Par.build s ops).1.Ok ex)
    (key : Val → Nat) :
    ∃ r, (Par.build s ops).1.term ex (.minByKey key) = .opt r ∧ IsMinOf key (seqVals s.items ops) r :=
  build_stream_vals s ops ▸ Par.core_reduce_select _ ex h (selMinBy_isSel key)

theorem C03_min_by (s : Src) (ops : List Op) (ex : Exec) (h : (Par.build s ops).1.Ok ex) :
    ∃ r, (Par.build s ops).1.term ex .minBy = .opt r ∧ IsMinOf id (seqVals s.items ops) r :=
  C03_min_by_key s ops ex h id

/-- **C03 (max_by_key, max_by).** for keys bounded by `B` (any bound; `usize` keys are): a
    survivor whose key is maximal -/
theorem C03_max_by_key (s : Src) (ops : List Op) (ex : Exec) (h : (Par.build s ops).1.Ok ex)
    (key : Val → Nat) (B : Nat) (hB : ∀ v, key v ≤ B) :
    ∃ r, (Par.build s ops).1.term ex (.maxByKey key) = .opt r ∧
      ((seqVals s.items ops = [] ∧ r = none) ∨
       ∃ v, r = some v ∧ v ∈ seqVals s.items ops ∧ ∀ y ∈ seqVals s.items ops, key y ≤ key v) :=
  build_stream_vals s ops ▸ Par.core_reduce_select _ ex h (selMaxBy_isSel key)

/-- the sequential fold of the selection agrees (it picks the first extremal element) -/
theorem C03_select_seq (key : Val → Nat) (S : List Val) :
    IsMinOf key S (reduceList (selMinBy key) S) :=
  reduceList_select (selMinBy_isSel key) S

/-- non-vacuity: ties — two survivors with the same minimal key in different workers -/
example : ({ asg := [⟨2, 0, [6, 3]⟩, ⟨1, 2, [9, 8]⟩], order := [1, 2], cs := fun _ => 2 } : Exec).Accepts
    [6, 3, 9, 8] :=
  ⟨⟨rfl, List.cons_ne_nil _ _, _, rfl, rfl, List.cons_ne_nil _ _, _, rfl, rfl⟩, by decide, by decide⟩

example : IsMinOf (· % 3) [6, 3, 9, 8] (some 3) :=
  Or.inr ⟨3, rfl, by decide, by decide⟩

end OrxPar
