/-
  C10 — Short-circuit terminals stop consuming input once a match is known.
  Transition system `Model/Run.lean` (source possibly unbounded, adversarial scheduler):
  (a) safety: from the moment a finder has published (`skip_to_end`) no pull succeeds any more
      and every worker evaluates at most the rest of the chunk it holds — a bound independent of
      how much input remains (`C10_no_pull_after_publication`, `C10_bounded_work`);
  (b) a finder publishes at its very next step after the matching evaluation; finite sources:
      every step of an unfinished worker decreases a measure, so every schedule that keeps
      scheduling unfinished workers finishes (`C10_progress`);
  (c) sequential mode: a chain executed in one pass evaluates exactly what std's lazy `find`
      evaluates — nothing beyond the first match (`C10_seq`).
  Termination on unbounded sources under fair rounds: `C10_terminates_fair`, from the two
  phases composed in `Run.leads_allDone` (Lemmas/RunPhases.lean).
-/
import OrxPar.Lemmas.RunPhases
import OrxPar.Lemmas.Scan
namespace OrxPar

/-- **C10 (no pull after publication).** for every continuation schedule -/
theorem C10_no_pull_after_publication (s : Run.State) (hs : s.stopped = true) (sched : List Nat) :
    (Run.run s sched).log = s.log ∧ (Run.run s sched).pos = s.pos ∧ (Run.run s sched).stopped = true :=
  let ⟨h1, h2, h3, _⟩ := Run.run_stopped s hs sched
  ⟨h1, h2, h3⟩

/-- **C10 (bounded work).** after publication a worker evaluates at most (a prefix of) the chunk
    it currently holds, whatever the length of the source (also unbounded) -/
theorem C10_bounded_work (s : Run.State) (hs : s.stopped = true) (sched : List Nat) (t : Nat)
    (w w' : Run.Worker) (hw : s.ws[t]? = some w) (hw' : (Run.run s sched).ws[t]? = some w') :
    ∃ k, w'.seen = w.seen ++ (Run.idx w.buf w.bufPos).take k ∧ w'.seen.length ≤ w.seen.length + w.buf.length := by
  obtain ⟨w0, hw0, ⟨e, he⟩, h2⟩ := (Run.run_stopped s hs sched).ws t w' hw'
  rw [hw] at hw0; cases hw0
  rw [← he] at h2 ⊢
  -- what it has evaluated since, `e`, is a prefix of what it held
  have h3 := (List.prefix_append_right_inj _).1 ((List.prefix_append _ _).trans h2)
  refine ⟨e.length, congrArg _ (List.prefix_iff_eq_take.1 h3), ?_⟩
  rw [List.length_append]
  exact Nat.add_le_add_left (Run.idx_length w.buf w.bufPos ▸ h3.length_le) _

/-- **C10 (progress on finite sources).** every step of a worker that is not finished strictly
    decreases the measure `2·(len − pos) + Σ (|buf| + status weight)` -/
theorem C10_progress (s : Run.State) (l : Nat) (hl : s.len = some l) (t : Nat) (w : Run.Worker)
    (hw : s.ws[t]? = some w) (hnd : w.status ≠ .done) (hc : 0 < w.c) :
    Run.measure (Run.step s t) l < Run.measure s l :=
  Run.step_measure s l hl t w hw hnd

/-- **C10 (termination on unbounded sources).** if the source — of known, unknown or unbounded
    length — has a match at position `m`, then under every schedule consisting of fair rounds
    (every worker steps at least once per round; arbitrary order and repetitions inside a round;
    other matches may be found by anybody at any time) all workers are done after
    `2(m+1) + Σc + 2·#workers + 4` rounds: a bound that does not depend on how much input remains -/
theorem C10_terminates_fair (src : Nat → Val) (len : Option Nat) (hit : Val → Bool) (cs : List Nat)
    (hne : cs ≠ []) (hpos : ∀ c ∈ cs, 0 < c) (m : Nat) (hm : hit (src m) = true)
    (hin : ∀ l, len = some l → m < l)
    (rounds : List (List Nat)) (hfair : ∀ r ∈ rounds, Run.FairRound cs.length r)
    (hlen : Run.termBound m cs ≤ rounds.length) :
    Run.AllDone (Run.run (Run.init src len hit cs) rounds.flatten) := by
  refine (Run.leads_allDone cs m _ rounds
    ⟨Run.init_inv src len hit cs hpos, Run.init_cs src len hit cs, hne, hm, hin⟩ hfair ?_).1
  show Run.psi (m + 1) (Run.init src len hit cs) + 1 + (cs.sum + 2 * cs.length + 1) ≤ _
  rw [Run.init_psi]
  exact Nat.le_trans (by unfold Run.termBound; omega) hlen

/-- finite sources without any match: fair rounds finish within a bound linear in the length -/
theorem C10_terminates_fair_finite (src : Nat → Val) (l : Nat) (hit : Val → Bool) (cs : List Nat)
    (hne : cs ≠ []) (hpos : ∀ c ∈ cs, 0 < c)
    (rounds : List (List Nat)) (hfair : ∀ r ∈ rounds, Run.FairRound cs.length r)
    (hlen : 2 * l + cs.sum + 2 * cs.length + 4 ≤ rounds.length) :
    Run.AllDone (Run.run (Run.init src (some l) hit cs) rounds.flatten) :=
  Run.terminates_fair_finite src l hit cs hne hpos rounds hfair hlen

/-- **C10 (sequential clause).** -/
theorem C10_seq (s : Src) (ops : List Op) (q : Val → Bool)
    (h : ∀ i (hi : i < ops.length), Par.isEagerSite (Par.build s (ops.take i)).1 ops[i] = false) :
    (Par.build s ops).1.seqFindLog q = ((seqStream s.items ops).filterW (callW stPred q)).first.2 := by
  rw [Par.seqFindLog, build_lazy_stream s ops h]

/-- … which is a prefix of the full evaluation: nothing after the first match is evaluated -/
theorem C10_seq_prefix (P : Par) (q : Val → Bool) :
    P.seqFindLog q <+: (P.stream.filterW (callW stPred q)).log :=
  Prod.first_log_prefix _

/-- **C10 (sequential mode: the source is consumed up to the match and no further).** if the
    first source element whose pipeline output satisfies the predicate is `x`, preceded by `A`,
    then what follows `x` in the source has no influence on the evaluation: the closure invocations
    are those of the source truncated right after `x` — `std`'s lazy `find` never asks the source
    for another element (the oracle of the check counts the `next()` calls of an instrumented
    source against exactly this) -/
theorem C10_seq_consumes_up_to_the_match (P : Par) (q : Val → Bool) (A : List Val) (x : Val) (B : List Val)
    (hsrc : P.src.items = A ++ x :: B)
    (hA : ∀ a ∈ A, hitOf (P.elemQ q) a = false) (hx : hitOf (P.elemQ q) x = true) :
    P.seqFindLog q = scanLog (P.elemQ q) (A ++ [x]) := by
  -- `A ++ [x]` contains a hit, so the scan never gets to `B` (whether or not `A` has one too)
  rw [Par.seqFindLog_eq_scan, hsrc, List.append_cons, scanLog_append, if_pos]
  rw [List.any_append, List.any_cons, hx, Bool.true_or, Bool.or_true]

/-- non-vacuity: an unbounded source (`len = none`, element i is i), a hit at 5, three workers:
    worker 0 finds it, publishes; the others stop after their held chunk -/
example : Run.AllDone (Run.run (Run.init (fun i => i) none (· == 5) [2, 2, 2])
    [0, 1, 2, 0, 0, 0, 1, 2, 2, 2, 0, 0, 1, 1, 1, 2, 1, 0]) := by
  decide

/-- sequential find on `[1,2,3,4]` with predicate `(· == 12)` after `map (+10)`: the map is
    evaluated on 1 and 2 only -/
example : (Par.build ⟨[1, 2, 3, 4], true⟩ [.map 0 (· + 10)]).1.seqFindLog (· == 12)
    = [⟨0, 1⟩, ⟨stPred, 11⟩, ⟨0, 2⟩, ⟨stPred, 12⟩] := by decide

end OrxPar
