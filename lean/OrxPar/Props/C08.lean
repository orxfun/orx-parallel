/-
  C08 — NumThreads::Max(n) bounds concurrency; Max(1) runs on the calling thread.
  (a) `max_num_threads ≤ n` under `Max(n)`; (b) the spawner creates at most `max_num_threads`
  workers for every stream of `has_more()` observations, `≤ max_num_threads − 1` inside the loop
  and exactly one after it; with `Max(1)` set the kernels' entry points take the `seq_*` branch,
  which contains no `Runner` call (c).
  The user's reduce operator additionally runs on the calling thread when the workers' results
  are folded (`Runner::reduce`), i.e. on up to n+1 distinct threads: a known finding
  (`C08_reduce_on_caller_witness`), concurrency stays ≤ n.
-/
import OrxPar.Lemmas.Spawn
import OrxPar.Model.Terminals
namespace OrxPar

/-- **C08 (max threads).** -/
theorem C08_max_threads (k : Consts) (hk : k.Admissible) (n : Nat) (hn : 0 < n) (cs : ChunkSize)
    (hcs : cs.WF) (task : Task) (len : Option Nat) (avail : Nat) :
    ∃ r, mkRunner k ⟨.max n, cs⟩ task len avail = some r ∧ 1 ≤ r.maxThreads ∧ r.maxThreads ≤ n :=
  ⟨_, mkRunner_eq k hk ⟨.max n, cs⟩ hcs task len avail, Nat.le_max_right _ _,
    Nat.max_le.2 ⟨calcNumThreads_le_max k len n avail, hn⟩⟩

/-- **C08 (spawn bound).** at most `max_num_threads` workers, for every environment -/
theorem C08_spawn_bound (r : Runner) (lag : Nat) (env : Nat → HasMore) (s : Sp)
    (hm : 1 ≤ r.maxThreads) (hr : spRun r lag env = some s) : s.workers.length ≤ r.maxThreads :=
  spawn_bound r lag env (r.maxThreads + 1) s hm hr

/-- **C08 (end to end).** `Max(n)` ⇒ at most `n` workers are ever spawned by one runner run -/
theorem C08_at_most_n_workers (k : Consts) (hk : k.Admissible) (n : Nat) (hn : 0 < n)
    (cs : ChunkSize) (hcs : cs.WF) (task : Task) (len : Option Nat) (avail : Nat)
    (env : Nat → HasMore) :
    ∃ r s, mkRunner k ⟨.max n, cs⟩ task len avail = some r ∧ spRun r k.lag env = some s ∧
      1 ≤ s.workers.length ∧ s.workers.length ≤ n := by
  obtain ⟨r, h1, h2, h3⟩ := C08_max_threads k hk n hn cs hcs task len avail
  obtain ⟨s, hsp⟩ := Option.isSome_iff_exists.1 (spRun_isSome r k.lag hk.1 env)
  refine ⟨r, s, h1, hsp, ?_, Nat.le_trans (C08_spawn_bound r k.lag env s h2 hsp) h3⟩
  -- the final spawn always happens: `s` is the loop's last state `s0` with one more worker
  obtain ⟨s0, _, e⟩ := Option.map_eq_some_iff.1 hsp
  exact e ▸ List.length_append ▸ Nat.le_add_left 1 s0.workers.length

/-- **C08 (no lower bound violated either).** the loop itself never creates more than
    `max_num_threads − 1` workers: the last one is always the post-loop spawn -/
theorem C08_do_spawn_refuses (r : Runner) (n : Nat) (h : HasMore) (hn : r.maxThreads - 1 ≤ n) :
    r.doSpawn n h = false :=
  if_pos hn

/-- **C08 (sequential).** with `Max(1)` every kernel entry point ignores the execution context:
    no runner is involved, the result is the `seq_*` value (shown for the reduce entry point; the
    others are identical `if p.isSequential` dispatches, see `Props/C09.lean`) -/
theorem C08_sequential_no_runner (cs : ChunkSize) (s : Src) (m : Val → Val) (f : Val → Bool)
    (op : Val → Val → Val) (ex ex' : Exec) :
    Kern.mapFilRed ⟨.max 1, cs⟩ s m f op ex = Kern.mapFilRed ⟨.max 1, cs⟩ s m f op ex' :=
  -- both sides take the `isSequential` branch
  (if_pos rfl).trans (if_pos rfl).symm

/-- the calling thread runs the user operator when it folds the workers' results: with two
    workers holding a survivor each, `Runner::reduce` applies the operator once more (known
    finding: the operator is seen on `n + 1` threads) -/
theorem C08_reduce_on_caller_witness :
    let ex : Exec := { asg := [⟨1, 0, [1]⟩, ⟨2, 1, [2]⟩], order := [1, 2], cs := fun _ => 1 }
    Kern.mapFilRed ⟨.max 2, .auto⟩ ⟨[1, 2], true⟩ id (fun _ => true) (· + ·) ex = some 3 := by
  decide

/-- non-vacuity of the spawn bound: `Max(3)` on 100 elements: 3 workers -/
example : (spRun ⟨some 100, 3, .min 1⟩ 4 (fun _ => .yes 50)).map (·.workers.length) = some 3 := by
  decide

end OrxPar
